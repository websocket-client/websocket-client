/-
  WS.Lemmas.Sizes — every amount `recv_strict` / `recv_frame` ask of the transport is at most the
  cap, for every state, script and declared length (no hypothesis at all).
-/
import WS.Lemmas.RecvStrict
namespace WS.Lemmas.Sizes
open WS WS.Model WS.Lemmas.RecvStrict

theorem sockRecv_sizes (c : Conn) (n : Nat) : ∀ x ∈ (c.sockRecv n).2.sock.recvSizes, x ∈ c.sock.recvSizes ∨ x = n := by
  intro x hx
  rcases sockRecv_spec c n with ⟨_, h⟩ | ⟨_, s, hz, ⟨d, h, _⟩ | ⟨e, h, _⟩ | h⟩ <;> rw [h] at hx
  · exact .inl hx
  all_goals
    have hx : x ∈ s.recvSizes := hx
    rcases hz with hz | hz <;> rw [hz] at hx
    · exact .inl hx
    · exact (List.mem_cons.1 hx).symm

theorem sizes_closed : ReadClosed (fun c _ c' => SizesOk c c') where
  ok := SizesOk.rfl'
  seq := SizesOk.trans
  fail := fun c _ _ => SizesOk.rfl' c
  read := fun c n hn x hx => (sockRecv_sizes c n x hx).imp_right fun (h : x = n) => h ▸ hn
  buf := fun c _ => SizesOk.rfl' c

theorem recvFrame_sizes (c : Conn) : SizesOk c c.recvFrame.2 :=
  (sizes_closed.frameClosed fun c _ _ _ => SizesOk.rfl' c).recvFrame c

end WS.Lemmas.Sizes
