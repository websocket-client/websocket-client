/-
  WS.Lemmas.Staged — the parser's stage fields are a lossless encoding of the bytes already consumed (`stageBytes`,
  `WellStaged`): what the RFC decoder does on the re-encoded bytes (`decode_hdrBytes`, `decode_extBytes`), and
  `recv_frame` from any well-staged state = `recv_frame` from the cleared state with those bytes put back (`recvFrame_virt`).
-/
import WS.Lemmas.Parser
namespace WS.Lemmas.Staged
open WS WS.Model WS.Spec WS.Lemmas.RecvStrict WS.Lemmas.Frame WS.Lemmas.Parser

/-- the two header bytes a stored header tuple came from. -/
def hdrBytes (h : Hdr) : Bytes :=
  [UInt8.ofNat (h.fin * 128 + h.rsv1 * 64 + h.rsv2 * 32 + h.rsv3 * 16 + h.opcode), UInt8.ofNat (h.hasMask * 128 + h.lenBits)]

/-- the first of `hdrBytes`, the byte `mkWire` reads FIN, RSV and opcode from. -/
def hdrByte0 (h : Hdr) : UInt8 := UInt8.ofNat (h.fin * 128 + h.rsv1 * 64 + h.rsv2 * 32 + h.rsv3 * 16 + h.opcode)

/-- the extended-length bytes a stored length came from. -/
def extBytes (h : Hdr) (L : Nat) : Bytes :=
  if h.lenBits = 126 then beN 2 L else if h.lenBits = 127 then beN 8 L else []

/-- the bytes already consumed by the completed stages of the frame in progress. -/
def stageBytes (c : Conn) : Bytes :=
  match c.hdr with
  | none => []
  | some h => hdrBytes h ++
    match c.len with
    | none => []
    | some L => extBytes h L ++
      match c.maskv with
      | none => []
      | some k => k

/-- all bytes of the stream from the start of the frame in progress. -/
def vpending (c : Conn) : Bytes := stageBytes c ++ pending c

/-- every field of the header tuple fits its bits: the tuple came from two bytes. -/
def HdrOk (h : Hdr) : Prop :=
  h.fin < 2 ∧ h.rsv1 < 2 ∧ h.rsv2 < 2 ∧ h.rsv3 < 2 ∧ h.opcode < 16 ∧ h.hasMask < 2 ∧ h.lenBits < 128

theorem HdrOk.hasMask {h : Hdr} (hk : HdrOk h) : h.hasMask < 2 := hk.2.2.2.2.2.1
theorem HdrOk.lenBits {h : Hdr} (hk : HdrOk h) : h.lenBits < 128 := hk.2.2.2.2.2.2

/-- the stored length `L` fits the extension the length code announces (2 or 8 bytes), or is the code itself. -/
def LenOk (h : Hdr) (L : Nat) : Prop :=
  (h.lenBits = 126 → L < 65536) ∧ (h.lenBits = 127 → L < 2 ^ 64) ∧ (h.lenBits ≠ 126 → h.lenBits ≠ 127 → L = h.lenBits)

/-- the stage fields are mutually consistent (what `recv_frame` maintains between calls). -/
def WellStaged (c : Conn) : Prop :=
  match c.hdr with
  | none => c.len = none ∧ c.maskv = none
  | some h => HdrOk h ∧
    match c.len with
    | none => c.maskv = none
    | some L => LenOk h L ∧
      match c.maskv with
      | none => True
      | some k => k.length = (if h.hasMask = 1 then 4 else 0)

theorem vpending_cleared {c : Conn} (h : Cleared c) : vpending c = pending c := by
  simp only [vpending, stageBytes, h.1, List.nil_append]

theorem wellStaged_cleared {c : Conn} (h : Cleared c) : WellStaged c := by
  simp only [WellStaged, h.1]
  exact ⟨h.2.1, h.2.2⟩

theorem hdrBytes_hdrOf (b0 b1 : UInt8) : hdrBytes (hdrOf b0 b1) = [b0, b1] := by
  obtain ⟨_, _, _, _, _, _, e0⟩ := byte_bits b0.toNat b0.toNat_lt
  have e1 : b1.toNat / 128 * 128 + b1.toNat % 128 = b1.toNat := Nat.div_add_mod' _ _
  simp only [hdrBytes, hdrOf, e0, e1, UInt8.ofNat_toNat]

theorem hdrOk_hdrOf (b0 b1 : UInt8) : HdrOk (hdrOf b0 b1) := by
  have h0 := b0.toNat_lt
  have h1 := b1.toNat_lt
  simp only [HdrOk, hdrOf]
  omega

theorem hdrOf_hdrBytes (h : Hdr) (hk : HdrOk h) : hdrOf ((hdrBytes h).getD 0 0) ((hdrBytes h).getD 1 0) = h := by
  show hdrOf (UInt8.ofNat _) (UInt8.ofNat _) = h
  obtain ⟨a1, a2, a3, a4, a5, a6, a7⟩ := hk
  obtain ⟨f0, f1, f2, f3, f4⟩ := hdr0_fields a1 a2 a3 a4 a5 rfl
  obtain ⟨g0, g1⟩ := hdr1_fields a6 a7 rfl
  rw [hdrOf, f0, f1, f2, f3, f4, g0, g1]

/-- the code tests the MASK bit with `!= 0`, `WellStaged` and the decoder with `= 1`. -/
theorem keyLen_eq {h : Hdr} (hk : HdrOk h) : (if h.hasMask != 0 then 4 else 0) = if h.hasMask = 1 then 4 else 0 := by
  match h.hasMask, hk.hasMask with
  | 0, _ => rfl
  | 1, _ => rfl

theorem extBytes_length (h : Hdr) (L : Nat) : (extBytes h L).length = extLen h.lenBits := by
  unfold extBytes extLen
  split
  · exact beN_length 2 L
  · split
    · exact beN_length 8 L
    · rfl

theorem lenOf_extBytes (h : Hdr) (L : Nat) (hlo : LenOk h L) : lenOf h.lenBits (extBytes h L) = L := by
  obtain ⟨l1, l2, l3⟩ := hlo
  unfold lenOf extBytes
  by_cases h6 : h.lenBits = 126
  · rw [if_pos (Or.inl h6), if_pos h6, unbe_beN 2 L (l1 h6)]
  · by_cases h7 : h.lenBits = 127
    · rw [if_pos (Or.inr h7), if_neg h6, if_pos h7, unbe_beN 8 L (l2 h7)]
    · rw [if_neg (not_or.2 ⟨h6, h7⟩), l3 h6 h7]

theorem extBytes_lenOf (h : Hdr) (v : Bytes) (hv : v.length = extLen h.lenBits) :
    extBytes h (lenOf h.lenBits v) = v ∧ LenOk h (lenOf h.lenBits v) := by
  have hlt := unbe_lt v
  unfold extLen at hv
  unfold extBytes lenOf LenOk
  by_cases h6 : h.lenBits = 126
  · rw [if_pos h6] at hv
    rw [hv] at hlt
    rw [if_pos h6, if_pos (Or.inl h6)]
    exact ⟨hv ▸ beN_unbe v, fun _ => hlt, fun h7 => by omega, fun h => absurd h6 h⟩
  · by_cases h7 : h.lenBits = 127
    · rw [if_neg h6, if_pos h7] at hv
      rw [hv] at hlt
      rw [if_neg h6, if_pos h7, if_pos (Or.inr h7)]
      exact ⟨hv ▸ beN_unbe v, fun h => absurd h h6, fun _ => hlt, fun _ h => absurd h7 h⟩
    · rw [if_neg h6, if_neg h7] at hv
      rw [if_neg h6, if_neg h7, if_neg (not_or.2 ⟨h6, h7⟩)]
      exact ⟨(List.eq_nil_of_length_eq_zero hv).symm, fun h => absurd h h6, fun h => absurd h h7, fun _ _ => rfl⟩

theorem decode_hdrBytes (h : Hdr) (hk : HdrOk h) (q : Bytes) :
    decode (hdrBytes h ++ q) = decodeLen (hdrByte0 h) (h.hasMask == 1) h.lenBits q := by
  obtain ⟨g0, g1⟩ := hdr1_fields hk.hasMask hk.lenBits rfl
  rw [hdrBytes, List.cons_append, List.cons_append, List.nil_append, decode, g0, g1, hdrByte0]

theorem decode_extBytes (h : Hdr) (hk : HdrOk h) (L : Nat) (hlo : LenOk h L) (q : Bytes) :
    decode (hdrBytes h ++ (extBytes h L ++ q)) = decodePayload (hdrByte0 h) (h.hasMask == 1) (lenForm h.lenBits) L q := by
  have he := extBytes_length h L
  rw [decode_hdrBytes h hk, decodeLen_eq, if_neg (by rw [List.length_append, he]; omega), List.take_left' he,
    List.drop_left' he, lenOf_extBytes h L hlo]

theorem frameOfWire_staged (h : Hdr) (hk : HdrOk h) (k p : Bytes) (hkl : k.length = if h.hasMask = 1 then 4 else 0)
    (form : Nat) :
    frameOfWire (mkWire (hdrByte0 h) (h.hasMask == 1) k form (if h.hasMask == 1 then unmask k p else p)) =
    { fin := h.fin, rsv1 := h.rsv1, rsv2 := h.rsv2, rsv3 := h.rsv3, opcode := h.opcode, mask := h.hasMask,
      data := if h.hasMask != 0 then mask k p else p } := by
  obtain ⟨a1, a2, a3, a4, a5, a6, _⟩ := hk
  obtain ⟨f0, f1, f2, f3, f4⟩ := hdr0_fields a1 a2 a3 a4 a5 rfl
  rw [hdrByte0, mkWire, f0, f1, f2, f3, f4, frameOfWire]
  match h.hasMask, a6, hkl with
  | 0, _, _ => rfl
  | 1, _, hkl =>
    rw [mask_eq_unmask k p hkl]
    rfl

theorem recvStrict_buffered (c : Conn) (n : Nat) (h : n ≤ c.buf.length) :
    c.recvStrict n = (.ok (c.buf.take n), { c with buf := c.buf.drop n }) := by
  unfold Conn.recvStrict Conn.recvStrictLoop
  simp [h]

theorem conn_eta_buf (c : Conn) : ({ c with buf := c.buf } : Conn) = c := rfl

/-- a stage whose bytes `v` are in the buffer already stores them without a socket read. -/
theorem recvFrame_buffered {c : Conn} {n : Nat} {upd : Bytes → Conn → Conn} {v b : Bytes}
    (hE : c.recvFrame = thenFrame (stage c n upd)) (hb : c.buf = v ++ b) (hv : v.length = n) :
    c.recvFrame = (upd v { c with buf := b }).recvFrame := by
  subst hv
  rw [hE, stage, recvStrict_buffered c _ (by rw [hb, List.length_append]; exact Nat.le_add_right ..), hb,
    List.take_left' rfl, List.drop_left' rfl]
  rfl

/-- the same connection with the frame in progress "un-read": parser cleared, the consumed stage bytes put back
    in front of the buffer. -/
def virt (c : Conn) : Conn := { c with hdr := none, len := none, maskv := none, buf := stageBytes c ++ c.buf }

/-- resuming is replaying: same result, same final state. -/
theorem recvFrame_virt (c : Conn) (hws : WellStaged c) : (virt c).recvFrame = c.recvFrame := by
  obtain ⟨sock, hasSock, connected, buf, hdr, len, maskv⟩ := c
  unfold WellStaged at hws
  unfold virt stageBytes
  -- the cleared parser re-reads stage after stage from the buffer, as far as `c` had got
  cases hdr with
  | none =>
    obtain ⟨rfl, rfl⟩ := hws
    rfl
  | some h =>
    obtain ⟨hk, hws⟩ := hws
    refine Eq.trans (recvFrame_buffered (recvFrame_hdr _ rfl) (List.append_assoc ..) rfl) ?_
    simp only [hdrOf_hdrBytes h hk]
    cases len with
    | none =>
      obtain rfl := hws
      rfl
    | some L =>
      obtain ⟨hlo, hws⟩ := hws
      refine Eq.trans
        (recvFrame_buffered (recvFrame_len _ rfl rfl hk.lenBits) (List.append_assoc ..) (extBytes_length h L)) ?_
      simp only [lenOf_extBytes h L hlo]
      cases maskv with
      | none => rfl
      | some k => exact recvFrame_buffered (recvFrame_mask _ rfl rfl rfl) rfl (hws.trans (keyLen_eq hk).symm)

end WS.Lemmas.Staged
