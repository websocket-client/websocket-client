/-
  WS.Lemmas.Exact — `recv_strict` / `recv_frame` never take from the transport more than the frame being read:
  after a whole frame the buffer is empty, so everything after the frame is still in the transport.
-/
import WS.Lemmas.RecvStrict
namespace WS.Lemmas.Exact
open WS WS.Model WS.Lemmas.RecvStrict

theorem sockRecv_len (c : Conn) (n : Nat) :
    (c.sockRecv n).2.buf = c.buf ∧ ∀ d, (c.sockRecv n).1 = .ok d → d.length ≤ n := by
  rcases sockRecv_spec c n with ⟨_, h⟩ | ⟨_, s, _, ⟨d, h, hd⟩ | ⟨e, h, _⟩ | h⟩ <;> rw [h]
  · exact ⟨rfl, nofun⟩
  · exact ⟨rfl, fun _ e => by cases e; exact hd⟩
  · exact ⟨rfl, nofun⟩
  · exact ⟨rfl, nofun⟩

/-- the buffer never holds more than the amount being assembled, so after a successful `recv_strict(n)` that started
    with at most `n` buffered bytes it is empty again. -/
theorem recvStrictLoop_buf_le (fuel : Nat) : ∀ (c : Conn) (n : Nat), c.buf.length ≤ n →
    (Conn.recvStrictLoop fuel c n).2.buf.length ≤ n := by
  induction fuel with
  | zero => exact fun c n h => h
  | succ f ih =>
    intro c n hle
    unfold Conn.recvStrictLoop
    split
    · exact hle
    · dsimp only   -- the `let`
      obtain ⟨hb, hl⟩ := sockRecv_len c (min Gen.recvCap (n - c.buf.length))
      generalize c.sockRecv (min Gen.recvCap (n - c.buf.length)) = r at hb hl
      obtain ⟨e | bs, c1⟩ := r
      · exact hb ▸ hle
      · have := hl bs rfl
        apply ih
        simp only [List.length_append]
        rw [show c1.buf = c.buf from hb]
        omega

/-- "started with an empty buffer and succeeded ⇒ ends with an empty buffer". -/
def Exact (c : Conn) (e : Option Exn) (c' : Conn) : Prop := c.buf = [] → e = none → c'.buf = []

theorem recvStrict_exact (c : Conn) (n : Nat) : Exact c (raised (c.recvStrict n).1) (c.recvStrict n).2 := by
  intro hb
  unfold Conn.recvStrict
  have := recvStrictLoop_buf_le (c.sock.size + 1) c n (by simp [hb])
  generalize Conn.recvStrictLoop (c.sock.size + 1) c n = r at this
  obtain ⟨_ | e, c1⟩ := r
  · have : c1.buf.length ≤ n := this
    exact fun _ => List.eq_nil_of_length_eq_zero (by simp; omega)
  · exact nofun

theorem exact_frame : FrameClosed Exact where
  ok _ hb _ := hb
  seq h1 h2 hb he := h2 (h1 hb rfl) he
  fail _ _ _ _ := nofun
  strict := recvStrict_exact
  stored _ _ _ _ hb _ := hb

theorem recvFrame_exact (c : Conn) (hb : c.buf = []) (f : Frame) (c' : Conn)
    (h : c.recvFrame = (.ok f, c')) : c'.buf = [] := by
  have := exact_frame.recvFrame c hb
  rw [h] at this
  exact this rfl

end WS.Lemmas.Exact
