/-
  WS.Lemmas.Lock — what the three interleaving models (`Model/Threads`, `Model/ThreadsProg`, `Model/Readers`) have in
  common: a step of task `i` replaces `pc` by `fun j => if j = i then v else pc j` (each model's `upd` unfolds to this).
  Proved once, for any type of program counters: the lock-protected section (`Sect`, in all three invariants) and the
  completion log (`Log`, in `TInv`, `RInv`).
-/
namespace WS.Lemmas.Lock

variable {P : Type} {pc : Nat → P} {i : Nat} {v : P} {d : P} {l : List Nat} {inside : P → Prop} {hd hd' : Option Nat}
  {Free Free' : Prop} {Held Held' : Nat → P → Prop}

/-- mutual exclusion: whoever is inside the section holds the lock (so two tasks inside are one task). -/
def Excl (inside : P → Prop) (pc : Nat → P) (hd : Option Nat) : Prop := ∀ j, inside (pc j) → hd = some j

theorem Excl.upd (h : Excl inside pc hd) (hi : inside v → hd' = some i) (hoth : ∀ j, j ≠ i → hd = some j → hd' = some j) :
    Excl inside (fun j => if j = i then v else pc j) hd' := by
  intro j
  show inside (if j = i then v else pc j) → _
  split
  · subst j
    exact hi
  · exact fun hj => hoth j ‹_› (h j hj)

/-- `Free`: what holds of the shared data while the lock is free; `Held h p`: while `h` holds it, at program counter `p`.
    A step of `i` takes the lock, moves inside the section or leaves it: each lemma asks for the one fact about the data
    that such a step has to supply, and concludes with `Free'`/`Held'`, the same descriptions read at the new state.
    (A step outside the section goes through `Excl.upd`; `held` is then restated for the unchanged holder by hand.) -/
structure Sect (inside : P → Prop) (pc : Nat → P) (hd : Option Nat) (Free : Prop) (Held : Nat → P → Prop) : Prop where
  excl : Excl inside pc hd
  free : hd = none → Free
  held : ∀ h, hd = some h → Held h (pc h)

theorem Sect.acquire (h : Sect inside pc hd Free Held) (hh : hd = none) (hv : Free → Held' i v) :
    Sect inside (fun j => if j = i then v else pc j) (some i) Free' Held' := by
  refine ⟨h.excl.upd (fun _ => rfl) (fun _ _ e => nomatch hh.symm.trans e), nofun, ?_⟩
  rintro _ ⟨⟩
  simpa using hv (h.free hh)

theorem Sect.inner {p : P} (h : Sect inside pc hd Free Held) (hp : pc i = p) (hi : inside p) (hv : Held i p → Held' i v) :
    Sect inside (fun j => if j = i then v else pc j) hd Free' Held' := by
  subst hp
  have hh := h.excl i hi
  refine ⟨h.excl.upd (fun _ => hh) fun _ _ => id, (fun e => nomatch hh.symm.trans e), fun o ho => ?_⟩
  cases hh.symm.trans ho
  simpa using hv (h.held i hh)

theorem Sect.release {p : P} (h : Sect inside pc hd Free Held) (hp : pc i = p) (hi : inside p) (hv : ¬ inside v)
    (hf : Held i p → Free') : Sect inside (fun j => if j = i then v else pc j) none Free' Held' := by
  subst hp
  have hh := h.excl i hi
  exact ⟨h.excl.upd (fun e => absurd e hv) fun _ hj e => absurd (Option.some.inj (hh.symm.trans e)) hj.symm,
    fun _ => hf (h.held i hh), nofun⟩

/-- `l` lists, once each, the tasks whose program counter is `d`. -/
structure Log (d : P) (pc : Nat → P) (l : List Nat) : Prop where
  nodup : l.Nodup
  iff : ∀ j, pc j = d ↔ j ∈ l

theorem Log.upd (h : Log d pc l) (hi : pc i ≠ d) (hv : v ≠ d) : Log d (fun j => if j = i then v else pc j) l := by
  refine ⟨h.nodup, fun j => ?_⟩
  show (if j = i then v else pc j) = d ↔ j ∈ l
  split
  · subst j
    simp [hv, ← h.iff, hi]
  · exact h.iff j

theorem Log.snoc (h : Log d pc l) (hi : pc i ≠ d) : Log d (fun j => if j = i then d else pc j) (l ++ [i]) := by
  have hni : i ∉ l := fun hm => hi ((h.iff i).2 hm)
  refine ⟨List.nodup_append.2 ⟨h.nodup, by simp, fun _ ha _ hb e => hni (List.mem_singleton.1 hb ▸ e ▸ ha)⟩, fun j => ?_⟩
  show (if j = i then d else pc j) = d ↔ j ∈ l ++ [i]
  split
  · subst j
    simp
  · simp [h.iff, *]

end WS.Lemmas.Lock
