/-
  WS.Lemmas.ThreadsProg — the interleaving invariant of threads that each send a sequence of frames.
-/
import WS.Model.ThreadsProg
import WS.Lemmas.Lock
namespace WS.Lemmas.ThreadsProg
open WS WS.Model.ThreadsProg WS.Lemmas.Lock

theorem consume_fst (st : (Nat → List Bytes) × List Bytes) (i : Nat) : (consume st i).1 = upd st.1 i (st.1 i).tail := by
  unfold consume
  split
  · next h =>
    -- nothing left: `upd` writes back the `[]` that is there
    funext j
    unfold upd
    split <;> simp [*]
  · next h =>
    rw [h]
    rfl

theorem consume_snd {st : (Nat → List Bytes) × List Bytes} {i : Nat} {f : Bytes} {fs : List Bytes} (h : st.1 i = f :: fs) :
    (consume st i).2 = st.2 ++ [f] := by
  simp [consume, h]

theorem played_snoc (prog : Nat → List Bytes) (order : List Nat) (i : Nat) :
    played prog (order ++ [i]) = consume (played prog order) i := by
  simp [played, List.foldl_append]

theorem foldl_consume_left (order : List Nat) (i : Nat) :
    ∀ st, (order.foldl consume st).1 i = (st.1 i).drop (order.count i) := by
  induction order with
  | nil => exact fun _ => rfl
  | cons a rest ih =>
    intro st
    rw [List.foldl_cons, ih, consume_fst, List.count_cons]
    unfold upd
    split
    · subst i
      simp
    · simp [Ne.symm ‹_›]

theorem played_left (prog : Nat → List Bytes) (order : List Nat) (i : Nat) :
    (played prog order).1 i = (prog i).drop (order.count i) :=
  foldl_consume_left order i (prog, [])

variable (prog : Nat → List Bytes) (acc : Nat → Nat)

/-- inside the section the lock protects: the write loop of `send_frame`. -/
def Writing : Pc → Prop
  | .writing _ => True
  | _ => False

/-- the wire is the frames of the serial execution `s.order`, then a prefix of the holder's next frame. -/
structure PInv (s : St) : Prop where
  /-- what the serial execution `order` leaves of each program. -/
  leftOk : s.left = (played prog s.order).1
  /-- `pre`: the part of the holder's next frame that is no longer in its program counter. -/
  sect : Sect Writing s.pc s.holder (s.wire = (played prog s.order).2.flatten) fun h p =>
    ∃ f fs pre rest, s.left h = f :: fs ∧ p = .writing rest ∧ f = pre ++ rest ∧
      s.wire = (played prog s.order).2.flatten ++ pre

theorem inv_init : PInv prog (init prog) := by
  refine ⟨rfl, fun j => ?_, fun _ => rfl, nofun⟩
  show Writing (if _ then _ else _) → _
  split <;> nofun

theorem inv_step (s : St) (i : Nat) (h : PInv prog s) : PInv prog (step true acc s i) := by
  fun_cases step true acc s i with
  | case2 hpc f fs hl _ hh =>   -- acquire
    exact ⟨h.leftOk, h.sect.acquire hh fun hf => ⟨f, fs, [], f, hl, rfl, rfl, by simpa using hf⟩⟩
  | case5 rest hpc hemp =>   -- release
    refine ⟨?_, h.sect.release hpc trivial nofun ?_⟩
    · simp only [played_snoc, consume_fst, ← h.leftOk]
    · rintro ⟨f, fs, pre, _, hl, ⟨⟩, hfr, hw⟩
      obtain rfl : rest = [] := by simpa using hemp
      simp [played_snoc, consume_snd (h.leftOk ▸ hl), hw, hfr]
  | case6 rest hpc _ l =>   -- one transport write
    refine ⟨h.leftOk, h.sect.inner hpc trivial ?_⟩
    rintro ⟨f, fs, pre, _, hl, ⟨⟩, hfr, hw⟩
    exact ⟨f, fs, pre ++ rest.take l, _, hl, rfl, by rw [hfr, List.append_assoc, List.take_append_drop],
      by rw [hw, List.append_assoc]⟩
  | case7 hpc =>   -- after the release: on to the next frame, or done
    refine ⟨h.leftOk, h.sect.excl.upd (by cases (s.left i).isEmpty <;> nofun) fun _ _ => id, h.sect.free, fun o ho => ?_⟩
    obtain ⟨f, fs, pre, rest, hl, hp, hf⟩ := h.sect.held o ho
    have hoi : o ≠ i := fun e => by
      rw [e, hpc] at hp
      cases hp
    exact ⟨f, fs, pre, rest, hl, (upd_other _ _ _ _ hoi).trans hp, hf⟩
  | case4 _ _ _ _ hl => exact absurd rfl hl   -- the start without the lock: not with `locked = true`
  | _ => exact h   -- nothing left to send, blocked, or done

theorem inv_reach (sched : List Nat) : PInv prog (run true acc (init prog) sched) :=
  List.foldlRecOn sched _ (inv_init prog) fun s h i _ => inv_step prog acc s i h

end WS.Lemmas.ThreadsProg
