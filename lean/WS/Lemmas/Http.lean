/-
  WS.Lemmas.Http — what the head-phase models do, one statement per function (`recv_line`, the loop of
  `read_headers`, `_get_resp_headers`, `handshake`), each built on the outcome shape `DocOr P r`.  With the repaired guards
  (`Gen.h2…Guard = true`, DESIGN §7 F8) no Python-level failure escapes, whatever the peer sends (C17); the head reader
  stops exactly behind the head (C03c).
-/
import WS.Lemmas.Handshake
namespace WS.Lemmas.Http
open WS WS.PyH2 WS.H2 WS.Model.Http WS.Model.Handshake

/-- the repaired shape of the head-phase code (false of the pinned commit). -/
theorem guards :
    Gen.h2DecodeGuard = true ∧ Gen.h2StatusGuard = true ∧ Gen.h2ContentLengthGuard = true ∧
    Gen.h2LocationGuard = true ∧ Gen.h2BodyReadCap = 16384 ∧ Gen.h2HeadRecvSize = 1 := by decide

/-- the errors the transport layer and the documented hierarchy can produce in the head phase. -/
def Documented : HExn → Prop
  | .closed | .timeout | .transport | .wsgeneric | .badstatus _ | .proxy | .address => True
  | .valueError | .internal _ => False

theorem documented_not_internal {e : HExn} (h : Documented e) : e.isInternal = false := by
  -- per constructor: `rfl`, or `h : False`
  cases e <;> first | rfl | exact absurd h id

/-- a documented error, or a value of which `P` says what was read. -/
def DocOr {α : Type} (P : α → Prop) : Except HExn α → Prop
  | .error e => Documented e
  | .ok a => P a

theorem DocOr.imp {α : Type} {P Q : α → Prop} (h : ∀ a, P a → Q a) : ∀ {r : Except HExn α}, DocOr P r → DocOr Q r
  | .error _ => id
  | .ok a => h a

/-- reading `pre`, which ends with LF, takes `s` to `s'`. -/
def Took (s s' : Sock) (pre : Bytes) : Prop :=
  s.inp = pre.map .byte ++ s'.inp ∧ s'.tail = s.tail ∧ pre.getLast? = some 10

theorem Took.trans {s s1 s' : Sock} {a b : Bytes} (h1 : Took s s1 a) (h2 : Took s1 s' b) : Took s s' (a ++ b) := by
  refine ⟨?_, h2.2.1.trans h1.2.1, ?_⟩
  · rw [h1.1, h2.1, List.map_append, List.append_assoc]
  · rw [List.getLast?_append, h2.2.2]
    rfl

theorem Took.length_lt {s s' : Sock} {pre : Bytes} (h : Took s s' pre) : s'.inp.length < s.inp.length := by
  rw [h.1, List.length_append, List.length_map]
  cases pre with
  | nil => cases h.2.2
  | cons => exact Nat.lt_add_of_pos_left (Nat.succ_pos _)

/-- `acc` holds the bytes collected so far, latest first, the count is their number: at `acc = []` this is `Took`. -/
theorem recvLineAux_spec {inp : List HEv} {tail : Tail} {acc : Bytes} {k : Nat} {r : Except HExn Bytes}
    {rest : List HEv × Tail} (h : recvLineAux inp tail acc acc.length = (r, rest, k)) :
    DocOr (fun l => (acc.reverse.map .byte ++ inp = l.map .byte ++ rest.1 ∧ rest.2 = tail ∧ l.getLast? = some 10) ∧
      k = l.length) r := by
  induction inp generalizing acc with
  | nil =>
    cases h
    dsimp only
    split <;> trivial
  | cons ev inp ih =>
    cases ev with
    | byte b =>
      simp only [recvLineAux] at h
      split at h
      · next hb =>
        cases h
        simp [DocOr, hb]
      · simpa using ih (acc := b :: acc) h
    | timeout =>
      cases h
      trivial
    | reset =>
      cases h
      trivial

theorem recvLine_spec {s s' : Sock} {r : Except HExn Bytes} {k : Nat} (h : recvLine s = (r, s', k)) :
    DocOr (fun l => Took s s' l ∧ k = l.length) r := by
  unfold recvLine at h
  split at h
  next hq =>
  cases h
  exact recvLineAux_spec (acc := []) hq

theorem headerStep_raise {hd : Head} {raw : Bytes} {e : HExn} : headerStep hd raw = .raise e → e = .wsgeneric := by
  fun_cases headerStep hd raw
  all_goals rintro ⟨⟩
  -- the `raise`s are left; three of them stand behind `Gen.h2DecodeGuard` or `Gen.h2StatusGuard`, which `rfl` evaluates
  all_goals rfl

theorem readLoop_spec {fuel : Nat} {s s' : Sock} {hd : Head} {n k : Nat} {r : Except HExn Head}
    (hfuel : s.inp.length < fuel) (hr : readLoop fuel s hd n = (r, s', k)) :
    DocOr (fun _ => ∃ pre : Bytes, Took s s' pre ∧ k = n + pre.length) r := by
  fun_induction readLoop fuel s hd n
  next => omega  -- no fuel
  next hl =>  -- `recvLine` fails
    cases hr
    exact recvLine_spec hl
  next hl _ =>  -- the blank line
    cases hr
    obtain ⟨hraw, rfl⟩ := recvLine_spec hl
    exact ⟨_, hraw, rfl⟩
  next hstep =>  -- the line is refused
    cases hr
    cases headerStep_raise hstep
    trivial
  next raw _ _ hl _ _ ih =>  -- one more line
    obtain ⟨hraw, rfl⟩ := recvLine_spec hl
    exact (ih (Nat.lt_of_lt_of_le hraw.length_lt (Nat.le_of_lt_succ hfuel)) hr).imp fun _ ⟨pre, hpre, hk⟩ =>
      ⟨raw ++ pre, hraw.trans hpre, by rw [hk, List.length_append, Nat.add_assoc]⟩

theorem readHeaders_err {s s' : Sock} {e : HExn} {k : Nat} (h : readHeaders s = (.error e, s', k)) : Documented e :=
  readLoop_spec (Nat.lt_succ_self _) h

theorem rawRecv_err {s s' : Sock} {n : Nat} {e : HExn} (h : rawRecv s n = (.error e, s')) : e = .transport := by
  unfold rawRecv at h
  repeat' split at h
  -- every exit: `.transport`, or no error
  all_goals first | (cases h; rfl) | cases h

/-- only reads, each within `Gen.h2BodyReadCap`. -/
def Reads (io : List IoEv) : Prop := ∀ ev ∈ io, ∃ n, ev = IoEv.recv n ∧ n ≤ Gen.h2BodyReadCap

theorem Reads.nil : Reads [] := nofun

theorem Reads.replicate (k : Nat) : Reads (List.replicate k (.recv Gen.h2HeadRecvSize)) :=
  fun _ hev => ⟨_, (List.mem_replicate.mp hev).2, by decide⟩

theorem Reads.snoc {io : List IoEv} {n : Nat} (h : Reads io) (hn : n ≤ Gen.h2BodyReadCap) : Reads (io ++ [.recv n]) :=
  fun ev hev => (List.mem_append.mp hev).elim (h ev) fun hev => ⟨n, List.mem_singleton.mp hev, hn⟩

/-- every exit raises, so nothing is asked of `P`. -/
theorem badStatus_post {hd : Head} {s s' : Sock} {reads io : List IoEv} {r : Except HExn (Int × Dict)}
    {P : Int × Dict → Prop} (hreads : Reads reads) (h : getRespHeaders.badStatus hd s reads = (r, s', io)) :
    DocOr P r ∧ Reads io := by
  obtain ⟨-, -, hclGuard, -, -, -⟩ := guards
  unfold getRespHeaders.badStatus at h
  rw [hclGuard] at h
  split at h
  · cases h  -- no Content-Length
    exact ⟨trivial, hreads⟩
  split at h
  · cases h  -- not an integer
    exact ⟨trivial, hreads⟩
  split at h
  · cases h  -- negative
    exact ⟨trivial, hreads⟩
  rw [if_neg (show Gen.h2BodyReadCap ≠ 0 by decide)] at h
  dsimp only at h
  split at h
  · cases h  -- the body is read
    exact ⟨trivial, hreads.snoc (Nat.min_le_right ..)⟩
  · next hrr =>  -- reading the body fails
    cases h
    cases rawRecv_err hrr
    exact ⟨trivial, hreads.snoc (Nat.min_le_right ..)⟩

theorem getRespHeaders_post {s s' : Sock} {r : Except HExn (Int × Dict)} {io : List IoEv}
    (h : getRespHeaders s = (r, s', io)) :
    DocOr (fun p => statusIn (some p.1) Gen.successStatuses = true) r ∧ Reads io := by
  unfold getRespHeaders at h
  split at h
  · next hr =>
    cases h
    exact ⟨readHeaders_err hr, .replicate _⟩
  · split at h
    · split at h
      · next hin =>
        cases h
        exact ⟨hin, .replicate _⟩
      · exact badStatus_post (.replicate _) h
    · exact badStatus_post (.replicate _) h

theorem send_err {s s' : Sock} {data : Bytes} {e : HExn} : send s data = (.error e, s') → e = .transport := by
  fun_cases send s data
  all_goals rintro ⟨⟩
  rfl

open WS.Spec.Handshake WS.Lemmas.Handshake in
theorem handshake_cases {acceptOf : Str → Str} {s s' : Sock} {url : Str} {u : UrlParts} {o : Opts} {rand : Bytes}
    {jar : Str} {r : Except HExn HsResp} {io : List IoEv} : handshake acceptOf s url u o rand jar = (r, s', io) →
    (∃ e, getHandshakeHeaders u.resource url u.host u.port o rand jar = .error e ∧ r = .error e ∧ io = []) ∨
    ∃ lines key reads, getHandshakeHeaders u.resource url u.host u.port o rand jar = .ok (lines, key) ∧
      io = .write (encodeUtf8 (requestText lines)) :: reads ∧ Reads reads ∧
      DocOr (fun resp => resp.key = key ∧ (isRedirect (some resp.status) = true ∨
        established acceptOf ⟨some resp.status, resp.headers⟩ key o.subprotocols = true ∧
          dictGetTruthy resp.headers "sec-websocket-accept".toList = some (acceptOf key))) r := by
  intro h
  unfold handshake at h
  split at h
  · next e hheaders =>  -- the headers cannot be built
    cases h
    exact .inl ⟨e, hheaders, rfl, rfl⟩
  next lines key hheaders =>
  dsimp only at h
  split at h
  · next hsend =>  -- the write fails
    cases h
    cases send_err hsend
    exact .inr ⟨lines, key, [], hheaders, rfl, .nil, trivial⟩
  split at h
  · next io hresp =>  -- no acceptable response
    cases h
    obtain ⟨hdoc, hreads⟩ := getRespHeaders_post hresp
    exact .inr ⟨lines, key, io, hheaders, rfl, hreads, hdoc⟩
  next status hdrs _ io hresp =>
  obtain ⟨hstatus, hreads⟩ := getRespHeaders_post hresp
  split at h
  · next hredirect =>  -- a redirect: not validated
    cases h
    exact .inr ⟨lines, key, io, hheaders, rfl, hreads, rfl, .inl (redirect_eq ▸ hredirect)⟩
  next hnr =>
  cases status_101 hstatus (Bool.eq_false_iff.mpr hnr)
  split at h
  · next hvalid =>  -- `_validate` accepts
    cases h
    exact .inr ⟨lines, key, io, hheaders, rfl, hreads, rfl, .inr ⟨validate_established hvalid, (validate_core hvalid).2.2⟩⟩
  · cases h  -- `_validate` refuses
    exact .inr ⟨lines, key, io, hheaders, rfl, hreads, trivial⟩

/-- **`handshake` never ends in an internal error** once the request could be built (building it
    fails only on the caller's own malformed options / URL, never on server bytes). -/
theorem handshake_err (acceptOf : Str → Str) (s : Sock) (url : Str) (u : UrlParts) (o : Opts)
    (rand : Bytes) (jar : Str) (lines : List Str) (key : Str)
    (hg : getHandshakeHeaders u.resource url u.host u.port o rand jar = .ok (lines, key))
    (e : HExn) (s' : Sock) (io : List IoEv)
    (h : handshake acceptOf s url u o rand jar = (.error e, s', io)) : Documented e := by
  rcases handshake_cases h with ⟨e', hnoheaders, -⟩ | ⟨_, _, _, -, -, -, hdoc⟩
  · cases hg.symm.trans hnoheaders
  · exact hdoc

end WS.Lemmas.Http
