/-
  WS.Lemmas.Base64 — the handshake-key codec `Base/Base64`, whose decoder is strict (canonical padding bits only):
  round trip, alphabet and length of the encoding.
-/
import WS.Base.Base64
namespace WS.Lemmas.Base64
open WS WS.Base64

/-- RFC 4648 §4: the four sextets of a group of three bytes, and the bytes read back from them;
  a final group of two bytes or one is the case `c = 0`, `b = c = 0`. -/
theorem sextets (a b c : UInt8) :
    (a.toNat / 4 < 64 ∧ a.toNat % 4 * 16 + b.toNat / 16 < 64 ∧ b.toNat % 16 * 4 + c.toNat / 64 < 64 ∧
      c.toNat % 64 < 64) ∧
    a.toNat / 4 * 4 + (a.toNat % 4 * 16 + b.toNat / 16) / 16 = a.toNat ∧
    (a.toNat % 4 * 16 + b.toNat / 16) % 16 * 16 + (b.toNat % 16 * 4 + c.toNat / 64) / 4 = b.toNat ∧
    (b.toNat % 16 * 4 + c.toNat / 64) % 4 * 64 + c.toNat % 64 = c.toNat := by
  have := a.toNat_lt
  have := b.toNat_lt
  have := c.toNat_lt
  omega

theorem val_char : ∀ n, n < 64 → b64Val (b64Char n) = some n ∧ b64Char n ≠ '=' := by decide

theorem decode_encode (bs : Bytes) : decode (encode bs) = some bs := by
  fun_induction encode bs with
  | case1 => rfl
  | case2 a =>
    have s := sextets a 0 0
    simp only [UInt8.toNat_zero, Nat.zero_div, Nat.add_zero] at s
    -- `Nat.mul_mod_left`: the padding bits of the last sextet are zero
    simp only [decode, val_char, s, and_self, if_true, Nat.mul_mod_left, UInt8.ofNat_toNat]
  | case3 a b =>
    have s := sextets a b 0
    simp only [UInt8.toNat_zero, Nat.zero_div, Nat.add_zero] at s
    simp only [decode, val_char, s, false_and, if_false, if_true, Nat.mul_mod_left, UInt8.ofNat_toNat]
  | case4 a b c rest ih =>
    have s := sextets a b c
    generalize encode rest = t at ih ⊢
    -- a last full group is read by the padding equation of `decode`, with both padding tests false
    cases t with
    | nil =>
      cases ih
      simp only [decode, val_char, s, false_and, if_false, UInt8.ofNat_toNat]
    | cons _ _ =>
      simp only [decode, val_char, s, ih, UInt8.ofNat_toNat]

theorem mem_encode (bs : Bytes) : ∀ c ∈ encode bs, c = '=' ∨ ∃ n, n < 64 ∧ c = b64Char n := by
  have h {n} (hn : n < 64) : b64Char n = '=' ∨ ∃ m, m < 64 ∧ b64Char n = b64Char m :=
    .inr ⟨n, hn, rfl⟩
  fun_induction encode bs with
  | case1 => nofun
  | case2 a =>
    obtain ⟨⟨lt1, lt2, -, -⟩, -⟩ := sextets a 0 0
    simp only [List.forall_mem_cons]
    exact ⟨h lt1, h lt2, .inl trivial, .inl trivial, nofun⟩
  | case3 a b =>
    obtain ⟨⟨lt1, lt2, lt3, -⟩, -⟩ := sextets a b 0
    simp only [List.forall_mem_cons]
    exact ⟨h lt1, h lt2, h lt3, .inl trivial, nofun⟩
  | case4 a b c rest ih =>
    obtain ⟨⟨lt1, lt2, lt3, lt4⟩, -⟩ := sextets a b c
    simp only [List.forall_mem_cons]
    exact ⟨h lt1, h lt2, h lt3, h lt4, ih⟩

theorem encode_length (bs : Bytes) : (encode bs).length = 4 * ((bs.length + 2) / 3) := by
  fun_induction encode bs with
  | case1 => rfl
  | case2 a => simp
  | case3 a b => simp
  | case4 a b c rest ih =>
    simp only [List.length_cons, ih]
    omega

end WS.Lemmas.Base64
