/-
  WS.Lemmas.CloseAnswered — the wait loop of `close()` against a peer whose answer is already there: it reads the
  frames that precede the peer's close frame, stops AT the close frame, and takes no time.
-/
import WS.Lemmas.CloseTime
namespace WS.Lemmas.CloseAnswered
open WS WS.Model WS.Spec WS.Lemmas.RecvStrict WS.Lemmas.Frame WS.Lemmas.Parser WS.Lemmas.Stream WS.Lemmas.ShortWrites WS.Lemmas.Loop

theorem closeWait_frame {c c1 : Conn} {f : Frame} (h : c.recvFrame = (.ok f, c1)) {t : Nat} (ht : 0 < t) (fuel : Nat) :
    Conn.closeWait (fuel + 1) c c.sock.clock (some t) =
      if f.opcode != Gen.opcodeClose then Conn.closeWait fuel c1 c.sock.clock (some t) else c1 := by
  rw [Conn.closeWait]
  simp [ht, h]

theorem closeWait_answered (fs : List Frame) : ∀ {c : Conn} {fc : Frame} {tail : Bytes} {t : Nat} (fuel : Nat),
    Fed c (fs ++ [fc]) tail → (∀ f ∈ fs, f.opcode ≠ Gen.opcodeClose) → fc.opcode = Gen.opcodeClose → 0 < t →
    fs.length < fuel →
    ∃ c', Conn.closeWait fuel c c.sock.clock (some t) = c' ∧ Fed c' [] tail ∧ c'.sock.clock = c.sock.clock ∧
      c'.sock.wire = c.sock.wire := by
  induction fs with
  | nil =>
    intro c fc tail t fuel h _ hclose ht hfu
    obtain ⟨fuel, rfl⟩ : ∃ k, fuel = k + 1 := ⟨fuel - 1, by omega⟩
    obtain ⟨c1, e1, h1, s1⟩ := step_recv h
    exact ⟨c1, by rw [closeWait_frame e1 ht, hclose]; rfl, h1, s1.clock, s1.wire⟩
  | cons f rest ih =>
    intro c fc tail t fuel h hnc hclose ht hfu
    obtain ⟨fuel, rfl⟩ : ∃ k, fuel = k + 1 := ⟨fuel - 1, by omega⟩
    obtain ⟨c1, e1, h1, s1⟩ := step_recv h
    obtain ⟨c', e', h', k', w'⟩ := ih fuel h1 (fun g hg => hnc g (List.mem_cons_of_mem _ hg)) hclose ht (by simpa using hfu)
    refine ⟨c', ?_, h', k'.trans s1.clock, w'.trans s1.wire⟩
    rw [closeWait_frame e1 ht, if_pos (by simpa using hnc f List.mem_cons_self), ← s1.clock]
    exact e'

end WS.Lemmas.CloseAnswered
