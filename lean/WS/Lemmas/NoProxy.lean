/-
  WS.Lemmas.NoProxy — helper lemmas for C19: 32-bit mask arithmetic, `mapM` over `Except`.
-/
import WS.Base.Bytes
namespace WS.Lemmas.NoProxy
open WS

theorem and_mask (ip k : Nat) (hip : ip < 2 ^ 32) :
    ip &&& ((0xFFFFFFFF <<< k) &&& 0xFFFFFFFF) = ip / 2 ^ k * 2 ^ k := by
  apply Nat.eq_of_testBit_eq
  intro i
  rw [show (0xFFFFFFFF : Nat) = 2 ^ 32 - 1 from rfl]
  simp only [Nat.testBit_and, Nat.testBit_shiftLeft, Nat.testBit_two_pow_sub_one,
    Nat.testBit_mul_two_pow, Nat.testBit_div_two_pow]
  by_cases hik : k ≤ i
  · by_cases hi : i < 32
    · simp [hik, hi, show i - k < 32 by omega]
    · simp [hi, Nat.sub_add_cancel hik, Nat.testBit_lt_two_pow
        (Nat.lt_of_lt_of_le hip (Nat.pow_le_pow_right (by decide) (Nat.le_of_not_lt hi)))]
  · simp [hik]

theorem div_mul_eq_iff (n a m : Nat) (hm : 0 < m) :
    n / m * m = a ↔ (a % m = 0 ∧ n / m = a / m) :=
  ⟨fun e => e ▸ ⟨Nat.mul_mod_left _ _, (Nat.mul_div_cancel _ hm).symm⟩,
    fun ⟨h0, h1⟩ => h1 ▸ Nat.div_mul_cancel (Nat.dvd_of_mod_eq_zero h0)⟩

theorem mapM_ok {α β : Type} {f : α → Except Exn β} {g : α → β} :
    ∀ l : List α, (∀ x ∈ l, f x = .ok (g x)) → l.mapM f = .ok (l.map g)
  | [], _ => rfl
  | x :: xs, h => by
    rw [List.mapM_cons, h x (.head _), mapM_ok xs fun y hy => h y (.tail _ hy)]
    rfl

end WS.Lemmas.NoProxy
