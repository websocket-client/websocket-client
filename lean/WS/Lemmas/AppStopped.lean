/-
  WS.Lemmas.AppStopped — once `keep_running` is cleared (the application's close(), teardown), whatever remains of the run is
  quiet (`QuietEv`): `QS`, carried through every continuation of `run_forever`.
-/
import WS.Lemmas.AppInv
namespace WS.Lemmas.App.Stopped
open WS WS.Model.App WS.Lemmas.App

/-- not a connection attempt, and not the report of an error of the run -/
def QuietEv (e : Ev) : Prop :=
  (∀ i, e ≠ .dial i) ∧ (∀ x, e = .cb .onError [.exn x] → Spec.AppTrace.AExn.isUser x = true ∨ x = .ki)

/-- every trace entry from position `n` on is quiet -/
def QP (n : Nat) (s : St) : Prop := ∀ i te, n ≤ i → s.trace[i]? = some te → QuietEv te.2

theorem qp_init (s : St) : QP s.trace.length s := by
  intro i te hi h
  rw [List.getElem?_eq_none hi] at h
  cases h

theorem q_other (e : Ev) (h : match e with | .dial _ | .cb _ _ => False | _ => True) : QuietEv e := by
  cases e <;> first | exact h.elim | exact ⟨fun _ => nofun, fun _ => nofun⟩

theorem q_pingStart : QuietEv .pingStart := q_other _ trivial
theorem q_outOfFuel : QuietEv .outOfFuel := q_other _ trivial
theorem q_sleep (d : Nat) : QuietEv (.sleep d) := q_other _ trivial
theorem q_returned (b : Bool) : QuietEv (.returned b) := q_other _ trivial
theorem q_raisedOut (e : AExn) : QuietEv (.raisedOut e) := q_other _ trivial
theorem q_cb (cb : Cb) (a : List Arg) (h : cb ≠ .onError) : QuietEv (.cb cb a) :=
  ⟨fun _ => nofun, fun _ hx => absurd (Ev.cb.inj hx).1 h⟩
theorem q_report (e : AExn) (h : Spec.AppTrace.AExn.isUser e = true ∨ e = .ki) : QuietEv (.cb .onError [.exn e]) :=
  ⟨fun _ => nofun, fun _ hx => by cases hx; exact h⟩

theorem qp_emit {n : Nat} {s : St} (e : Ev) (h : QP n s) (he : QuietEv e) : QP n (s.emit e) := by
  intro i te hi hte
  rw [emit_trace, List.getElem?_append] at hte
  split at hte
  · exact h i te hi hte
  · rw [List.mem_singleton.mp (List.mem_of_getElem? hte)]
    exact he

theorem qp_low {c : Cfg} {k : Nat} {s s' : St} (h : Low c s s') (hs : QP k s) : QP k s' := by
  induction h with
  | silent h => exact fun i te hi hte => hs i te hi (h.tr ▸ hte)
  | trans _ _ h1 h2 => exact h2 (h1 hs)
  | @emit s e hp _ => exact qp_emit _ hs (q_other e (by cases e <;> first | trivial | cases hp))
  | pingStop _ => exact qp_emit _ hs (q_other _ trivial)
  | sockClosed _ _ => exact qp_emit _ hs (q_other _ trivial)
  | sockDropped _ _ => exact qp_emit _ hs (q_other _ trivial)
  | forget _ _ => exact hs

/-- what every function of the run keeps once `keep_running` is cleared (`qs_…`) -/
def QS (k : Nat) (s : St) : Prop := QP k s ∧ s.keepRunning = false

theorem qs_low {c : Cfg} {k : Nat} {s s' : St} (f : Low c s s') (h : QS k s) : QS k s' :=
  ⟨qp_low f h.1, f.frame.kr.trans h.2⟩

theorem qs_callback (c : Cfg) (k : Nat) (s : St) (cb : Cb) (args : List Arg) (h : QS k s) (hq : QuietEv (.cb cb args)) :
    QS k (callback c s cb args).1 :=
  callback_keeps c cb args (fun _ h => ⟨qp_emit _ h.1 hq, h.2⟩) (fun _ _ h => ⟨qp_emit _ h.1 (q_report _ (.inl rfl)), h.2⟩)
    (fun _ _ l h => qs_low l ⟨h.1, rfl⟩) s h

theorem qs_teardown (c : Cfg) (k : Nat) (s : St) (frame : Option Bytes) (h : QS k s) : QS k (teardown c s frame).1 := by
  rcases teardown_step c s frame with ⟨_, e⟩ | ⟨s1, s2, l1, _, l2, e | ⟨_, e⟩⟩ <;> rw [e]
  · exact h
  · exact qs_low l2 ⟨(qs_low l1 h).1, rfl⟩
  · exact qs_callback c k _ _ _ (qs_low l2 ⟨(qs_low l1 h).1, rfl⟩) (q_cb _ _ nofun)

/-- **the guard at work**: with the loop condition off, handleDisconnect reports nothing but a KeyboardInterrupt -/
theorem qs_handleDisconnect (c : Cfg) (k : Nat) (s : St) (e : AExn) (rc : Bool) (h : QS k s) :
    QS k (handleDisconnect c s e rc).1 := by
  by_cases hki : e = .ki
  · subst hki
    simp only [handleDisconnect, bne_self_eq_false, Bool.and_false, Bool.false_eq_true, ↓reduceIte]
    exact handleDisconnectBody_keeps c s .ki rc (qs_low (low_stopPing c { s with hasErrored := true }) h)
      (fun s hs => qs_callback c k s _ _ hs (q_report _ (.inr rfl))) fun s => qs_teardown c k s none
  · rw [handleDisconnect_closing c s e rc h.2 hki]
    exact qs_teardown c k s none h

theorem qs_read (c : Cfg) (k : Nat) (s : St) (h : QS k s) : QS k (Model.App.read c s).1 := by
  unfold Model.App.read
  simp only [h.2, Bool.not_false, ↓reduceIte, asRead_fst]
  exact qs_teardown c k s none h

theorem qs_dispLoop (c : Cfg) (k : Nat) (n : Nat) (s : St) (h : QS k s) : QS k (dispLoop c n s).1 := by
  cases n with
  | zero => exact ⟨qp_emit _ h.1 q_outOfFuel, h.2⟩
  | succ m =>
    rw [dispLoop]
    simp only [h.2, Bool.not_false, ↓reduceIte]
    exact h

theorem qs_afterRead (c : Cfg) (k : Nat) (f : St → St × R Unit) (x : St × R Bool) (hx : QS k x.1)
    (hf : ∀ s1, QS k s1 → QS k (f s1).1) : QS k (afterRead c f x).1 :=
  afterRead_keeps c f x hx hf

theorem qs_afterLoop (c : Cfg) (k : Nat) (rc : Bool) (x : St × R Unit) (h : QS k x.1) : QS k (afterLoop c rc x).1 :=
  afterLoop_keeps c rc (fun s e => qs_handleDisconnect c k s e rc) x h

theorem qs_afterOpen (c : Cfg) (k : Nat) (rc : Bool) (x : St × R Unit) (h : QS k x.1) : QS k (afterOpen c rc x).1 :=
  afterOpen_keeps c rc (fun s e => qs_handleDisconnect c k s e rc) (qs_dispLoop c k c.fuel) x h

theorem qs_reconnectLoop (c : Cfg) (k : Nat) (n : Nat) (s : St) (h : QS k s) : QS k (reconnectLoop c n s).1 := by
  cases n with
  | zero => exact ⟨qp_emit _ h.1 q_outOfFuel, h.2⟩
  | succ m =>
    rw [reconnectLoop_Q c m s h.2]
    exact h

theorem qs_rlNext (c : Cfg) (k : Nat) (n : Nat) (x : St × R Unit) (h : QS k x.1) : QS k (rlNext (reconnectLoop c n) x).1 :=
  rlNext_keeps _ x h (qs_reconnectLoop c k n)

theorem qs_afterBody (c : Cfg) (k : Nat) (x : St × R Unit) (h : QS k x.1) : QS k (afterBody c x).1 :=
  afterBody_keeps c (fun s => qs_teardown c k s none) x h

end WS.Lemmas.App.Stopped
