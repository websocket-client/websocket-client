/-
  WS.Lemmas.OwnClose — the ghost counter `ownCloses` (close frames written by `close()` or by the automatic
  reply) never exceeds 1 along any history of client calls and server events: both writers require
  `connected = true`, both clear it before writing, and nothing ever sets it again.  Also the histories of client calls
  (`Op`, `runOps`) as runs of the link (`runOps_run`), which `Released` and `Loss` use as well.
-/
import WS.Lemmas.Link
namespace WS.Lemmas.OwnClose
open WS WS.Model WS.Lemmas.Link

/-- at most one close frame on the client's own initiative, and none while still connected. -/
def OwnInv (l : Link) : Prop := l.ownCloses ≤ 1 ∧ (l.connected = true → l.ownCloses = 0)

theorem OwnInv.run {l l' : Link} {e : Option Exn} (hi : OwnInv l) (h : Run l e l') : OwnInv l' := by
  induction h with
  | seq _ _ ih1 ih2 => exact ih2 (ih1 hi)
  | caught _ ih => exact ih hi
  | own l hc => exact ⟨by simp [hi.2 hc], nofun⟩
  | disconnect l => exact ⟨hi.1, nofun⟩
  | release l _ => exact ⟨hi.1, nofun⟩
  | _ => exact hi

/-- the client calls of C08's histories. -/
inductive Op where
  | send (p : Bytes) (op : Nat)
  | ping (p : Bytes)
  | pong (p : Bytes)
  | recv
  | recvData (cf : Bool)
  | recvDataFrame (cf : Bool)
  | recvFrame
  | sendClose (s : Int) (r : Bytes)
  | close (s : Int) (r : Bytes) (t : Option Nat)
  | shutdown
  | abort

/-- the state a call leaves, whether it returned or raised. -/
def runOp (c : Conn) : Op → Conn
  | .send p op => (c.send p op).2
  | .ping p => (c.ping p).2
  | .pong p => (c.pong p).2
  | .recv => c.recv.2
  | .recvData cf => (c.recvData cf).2
  | .recvDataFrame cf => (c.recvDataFrame cf).2
  | .recvFrame => c.recvFrame.2
  | .sendClose s r => (c.sendClose s r).2
  | .close s r t => (c.close s r t).2
  | .shutdown => c.shutdown
  | .abort => c.abort.2

/-- a history: every call is made, whatever the one before it raised. -/
def runOps (c : Conn) (ops : List Op) : Conn := ops.foldl runOp c

theorem recvData_state (c : Conn) (cf : Bool) : (c.recvData cf).2 = (c.recvDataFrame cf).2 := by
  unfold Conn.recvData
  generalize c.recvDataFrame cf = r
  obtain ⟨e | ⟨op, f⟩, c'⟩ := r <;> rfl

theorem recv_state (c : Conn) : c.recv.2 = (c.recvDataFrame false).2 := by
  unfold Conn.recv
  rw [← recvData_state]
  generalize c.recvData false = r
  obtain ⟨e | ⟨op, d⟩, c'⟩ := r
  · rfl
  · -- text (decodable or not), binary, or anything else: the state is passed on as it is
    simp only [apply_ite Prod.snd, ite_self]

theorem runOp_run (c : Conn) (o : Op) : Run (link c) none (link (runOp c o)) := by
  cases o with
  | send p op => exact .caught (sendFrame_run c _)
  | ping p => exact .caught (sendFrame_run c _)
  | pong p => exact .caught (sendFrame_run c _)
  | recv =>
    show Run (link c) none (link c.recv.2)
    rw [recv_state]
    exact .caught (recvDataFrameLoop_run _ false c)
  | recvData cf =>
    show Run (link c) none (link (c.recvData cf).2)
    rw [recvData_state]
    exact .caught (recvDataFrameLoop_run _ cf c)
  | recvDataFrame cf => exact .caught (recvDataFrameLoop_run _ cf c)
  | recvFrame => exact .caught (recvFrame_run c)
  | sendClose s r => exact .caught (sendClose_run c s r)
  | close s r t => exact .caught (close_run c s r t)
  | shutdown => exact shutdown_run c
  | abort => exact .caught (abort_run c)

theorem runOps_run (ops : List Op) : ∀ c : Conn, Run (link c) none (link (runOps c ops)) := by
  induction ops with
  | nil => exact fun c => .ok _
  | cons o rest ih => exact fun c => .seq (runOp_run c o) (ih _)

end WS.Lemmas.OwnClose
