/-
  WS.Lemmas.TlsOrder — helper lemmas for C11's ordering clause: the Spec's monitor `Spec.Tls.orderedB` accepts every
  trace in `Reach`, so every trace of `connect`: no handshake byte is written on a transport dialled for a secure URL
  unless a successful wrap with the computed policy precedes it; the proxy CONNECT is the only plaintext.
-/
import WS.Lemmas.Connect
import WS.Spec.TlsPolicy
namespace WS.Lemmas.TlsOrder
open WS WS.PyH2 WS.H2 WS.Model.Http WS.Model.Handshake WS.Model.Connect WS.Lemmas.Connect WS.Spec.Tls

variable {env : Env} {pol : Str → Option Policy}

theorem okAtB_write {pre : List Ev} {j : Nat} {bs : Bytes} :
    okAtB pol pre (.io j (.write bs)) = true ↔
      ∀ u, Ev.dial j u ∈ pre → u.secure = true → ∃ p, Ev.wrap j p true ∈ pre ∧ pol u.host = some p := by
  simp only [okAtB, List.all_eq_true]
  constructor
  · intro h u hu hsec
    obtain ⟨w, hw, hm⟩ : ∃ w ∈ pre, _ := by simpa [hsec] using h _ hu
    cases w with
    | wrap j' p ok =>
      cases ok with
      | false => cases hm
      | true =>
        obtain ⟨rfl, hp⟩ : j' = j ∧ pol u.host = some p := by simpa using hm
        exact ⟨p, hw, hp⟩
    | _ => cases hm
  · intro h e he
    cases e with
    | dial j' u =>
      simp only [Bool.or_eq_true, Bool.not_eq_true', Bool.and_eq_false_imp, beq_iff_eq, List.any_eq_true]
      by_cases hj : j' = j
      · subst hj
        by_cases hs : u.secure = true
        · obtain ⟨p, hp, hsp⟩ := h u he hs
          exact .inr ⟨Ev.wrap j' p true, hp, by simp [hsp]⟩
        · exact .inl fun _ => by simpa using hs
      · exact .inl fun hc => absurd hc hj
    | _ => rfl

theorem orderedB_append (pre a b : List Ev) :
    orderedB pol pre (a ++ b) = (orderedB pol pre a && orderedB pol (pre ++ a) b) := by
  induction a generalizing pre with
  | nil => simp [orderedB]
  | cons e rest ih =>
    simp only [List.cons_append, orderedB, ih, List.append_assoc, List.nil_append, Bool.and_assoc]

/-- the monitor looks at handshake I/O only. -/
theorem orderedB_quiet (pre : List Ev) {l : List Ev} (h : ∀ j x, Ev.io j x ∉ l) : orderedB pol pre l = true := by
  induction l generalizing pre with
  | nil => rfl
  | cons e rest ih =>
    rw [orderedB, ih _ fun j x hx => h j x (List.mem_cons_of_mem _ hx), Bool.and_true]
    cases e with
    | io j x => exact absurd List.mem_cons_self (h j x)
    | _ => rfl

theorem orderedB_ios {i : Nat} {pre : List Ev} (io : List IoEv)
    (hpre : ∀ u, Ev.dial i u ∈ pre → u.secure = true → ∃ p, Ev.wrap i p true ∈ pre ∧ pol u.host = some p) :
    orderedB pol pre (io.map (Ev.io i)) = true := by
  induction io generalizing pre with
  | nil => rfl
  | cons x rest ih =>
    rw [List.map_cons, orderedB, ih, Bool.and_true]
    · cases x with
      | write bs => exact okAtB_write.mpr hpre
      | recv n => rfl
    · intro u hu hs
      rcases List.mem_append.mp hu with hu | hu
      · obtain ⟨p, hp, hpol⟩ := hpre u hu hs
        exact ⟨p, List.mem_append_left _ hp, hpol⟩
      · simp at hu

theorem _root_.WS.Lemmas.Connect.Reach.ordered {i : Nat} {c : Option Nat} {tr : List Ev}
    (hpol : ∀ host p, Model.Tls.sslSocket env.sslopt env.tlsEnv host = .ok p → pol host = some p)
    (h : Reach env i c tr) : orderedB pol [] tr = true := by
  induction h with
  | init => rfl
  | close k _ _ ih =>
    rw [orderedB_append, ih]
    rfl
  | fail hd _ ih => rw [orderedB_append, ih, orderedB_quiet _ hd.no_io, Bool.and_self]
  | block io hd h ih =>
    simp only [orderedB_append, ih, orderedB_quiet _ hd.no_io, Bool.true_and, List.nil_append]
    refine orderedB_ios io fun u' hu hsec => ?_
    rcases List.mem_append.mp hu with hu | hu
    · exact (Nat.lt_irrefl _ (h.dial_lt hu)).elim
    · obtain ⟨p, hp, hsp⟩ := hd.wrapped_of_dial hu hsec
      exact ⟨p, List.mem_append_right _ hp, hpol _ _ hsp⟩

end WS.Lemmas.TlsOrder
