/-
  WS.Lemmas.AppRes — resource accounting of `run_forever`, with no hypothesis on the world or the settings: at every point of
  the trace at most one transport is open and at most one ping thread is alive (Spec.AppTrace.resourcesBounded), and the
  counts agree with the state (`app.sock`, `ping_thread`).
  `RI` says that of a state; every step keeps it except a dial while a transport is open and a ping thread started beside
  a live one.  That neither happens is control flow, followed through the functions of the run by `RJ` and `Ends`.
-/
import WS.Lemmas.AppHoare
namespace WS.Lemmas.App
open WS WS.Model.App
open WS.Spec.AppTrace (live livePings resourcesBounded)

/-- the state holds an open transport -/
def openSock (s : St) : Bool := match s.sock with | some w => w.isOpen | none => false

theorem openSock_some {s : St} {w : WSock} (h : s.sock = some w) : openSock s = w.isOpen := by rw [openSock, h]

/-- a flag of the state as the count the trace must show: 0 or 1 -/
def b2i (b : Bool) : Int := if b then 1 else 0

theorem b2i_le (b : Bool) : b2i b ≤ 1 := by cases b <;> decide

/-- `live` and `livePings` counted on from `n`: the two counters `resourcesBounded` carries along a trace -/
def liveFrom (n : Int) (tr : Trace) : Int :=
  tr.foldl (fun n te => match te.2 with | .dial _ => n + 1 | .sockClosed _ => n - 1 | .sockDropped _ => n - 1 | _ => n) n

def pingsFrom (n : Int) (tr : Trace) : Int :=
  tr.foldl (fun n te => match te.2 with | .pingStart => n + 1 | .pingStop => n - 1 | _ => n) n

theorem live_append (a b : Trace) : live (a ++ b) = liveFrom (live a) b := List.foldl_append

theorem livePings_append (a b : Trace) : livePings (a ++ b) = pingsFrom (livePings a) b := List.foldl_append

theorem rb_append (a b : Trace) :
    resourcesBounded (a ++ b) 0 0 = (resourcesBounded a 0 0 && resourcesBounded b (live a) (livePings a)) := by
  have from_any : ∀ (a : Trace) (l p : Int),
      resourcesBounded (a ++ b) l p = (resourcesBounded a l p && resourcesBounded b (liveFrom l a) (pingsFrom p a)) := by
    intro a
    induction a with
    | nil =>
      intro l p
      simp [resourcesBounded, liveFrom, pingsFrom]
    | cons x r ih =>
      intro l p
      simp only [List.cons_append, resourcesBounded, ih, Bool.and_assoc]
      rfl
  exact from_any a 0 0

/-- the trace's resource counts agree with the state, and every prefix is within bounds -/
structure RI (s : St) : Prop where
  bnd : resourcesBounded s.trace 0 0 = true
  lv : live s.trace = b2i (openSock s)
  pg : livePings s.trace = b2i s.ping.isSome

theorem RI.step {s s' : St} {t : Nat} {e : Ev} (h : RI s) (htr : s'.trace = s.trace ++ [(t, e)])
    (hl : liveFrom (b2i (openSock s)) [(t, e)] = b2i (openSock s'))
    (hp : pingsFrom (b2i s.ping.isSome) [(t, e)] = b2i s'.ping.isSome) : RI s' := by
  refine ⟨?_, by rw [htr, live_append, h.lv, hl], by rw [htr, livePings_append, h.pg, hp]⟩
  rw [htr, rb_append, h.bnd, h.lv, h.pg]
  -- within bounds, because the new counts are again those of a state
  show (decide (liveFrom _ [(t, e)] ≤ 1) && decide (pingsFrom _ [(t, e)] ≤ 1) && true) = true
  simp [hl, hp, b2i_le]

theorem RI.same {s s' : St} (h : RI s) (htr : s'.trace = s.trace) (hl : openSock s' = openSock s)
    (hp : s'.ping.isSome = s.ping.isSome) : RI s' :=
  ⟨htr ▸ h.bnd, by rw [htr, hl]; exact h.lv, by rw [htr, hp]; exact h.pg⟩

theorem RI.emit {s : St} {e : Ev} (h : RI s) (he : plain e = true) : RI (s.emit e) := by
  have idle : ∀ n, liveFrom n [(s.now, e)] = n ∧ pingsFrom n [(s.now, e)] = n := by
    cases e <;> first | contradiction | exact fun _ => ⟨rfl, rfl⟩
  exact h.step rfl (idle _).1 (idle _).2

theorem ri_low {c : Cfg} {s s' : St} (h : Low c s s') (hs : RI s) : RI s' := by
  induction h with
  | silent h =>
    have open_eq : ∀ s : St, openSock s = (s.sock.map (·.isOpen)).getD false := fun s => by
      unfold openSock
      cases s.sock <;> rfl
    exact hs.same h.tr (by rw [open_eq, open_eq, h.sk]) h.pg
  | trans _ _ h1 h2 => exact h2 (h1 hs)
  | emit s hp _ => exact hs.emit hp
  | pingStop hp => exact hs.step rfl rfl (by rw [hp]; rfl)
  | sockClosed hk ho => exact hs.step rfl (by rw [openSock_some hk, ho]; rfl) rfl
  | sockDropped hk ho => exact hs.step rfl (by rw [openSock_some hk, ho]; rfl) rfl
  | forget hk ho => exact hs.same rfl (by rw [openSock_some hk, ho]; rfl) rfl

/-- `RI` strengthened (hence the next letter): once teardown has begun the loop condition is off and the ping thread gone -/
structure RJ (s : St) : Prop where
  ri : RI s
  td : s.hasDoneTeardown = true → s.keepRunning = false ∧ s.ping = none

theorem rj_low {c : Cfg} {s s' : St} (l : Low c s s') (h : RJ s) : RJ s' :=
  ⟨ri_low l h.ri, fun hd => let ⟨k, p⟩ := h.td (l.frame.hdt.symm.trans hd); ⟨l.frame.kr.trans k, l.frame.pn p⟩⟩

theorem rj_callback (c : Cfg) (s : St) (cb : Cb) (args : List Arg) (h : RJ s) : RJ (callback c s cb args).1 :=
  -- `.same rfl rfl rfl`, here and below: over a flag update (`keep_running` here) that `RI` does not read
  callback_keeps c cb args (fun _ h => ⟨h.ri.step rfl rfl rfl, h.td⟩) (fun _ _ h => ⟨h.ri.step rfl rfl rfl, h.td⟩)
    (fun _ _ l h => rj_low l ⟨h.ri.same rfl rfl rfl, fun hd => ⟨rfl, (h.td hd).2⟩⟩) s h

theorem rj_teardown (c : Cfg) (s : St) (frame : Option Bytes) (h : RJ s) :
    RJ (teardown c s frame).1 ∧ (teardown c s frame).1.ping = none := by
  rcases teardown_step c s frame with ⟨hd, e⟩ | ⟨s1, s2, l1, ⟨p1, _⟩, l2, e⟩
  · rw [e]
    exact ⟨h, (h.td hd).2⟩
  · have p2 : s2.ping = none := l2.frame.pn p1
    -- over the updates of `has_done_teardown` and `keep_running`
    have j2 : RJ s2 :=
      ⟨ri_low l2 ((ri_low l1 (h.ri.same rfl rfl rfl)).same rfl rfl rfl), fun _ => ⟨l2.frame.kr, p2⟩⟩
    rcases e with e | ⟨_, e⟩ <;> rw [e]
    · exact ⟨j2, p2⟩
    · exact ⟨rj_callback c _ _ _ j2, (callback_mono c s2 _ _).pn p2⟩

/-- how the dispatcher loop and `setSock` end: they return, on which control passes on towards the next `setSock`, only with
    the loop condition off or the ping thread gone, so that `setSock` never starts a second one -/
abbrev Ends (x : St × R Unit) : Prop :=
  RJ x.1 ∧ (x.2 = .ok () → x.1.keepRunning = true → x.1.ping = none)

/-- either the body runs, which stops the ping thread first, or — application closed — teardown does -/
theorem rj_handleDisconnect (c : Cfg) (s : St) (e : AExn) (rc : Bool) (h : RJ s) : Ends (handleDisconnect c s e rc) := by
  suffices h : RJ (handleDisconnect c s e rc).1 ∧ (handleDisconnect c s e rc).1.ping = none from ⟨h.1, fun _ _ => h.2⟩
  unfold handleDisconnect
  split
  · exact rj_teardown c s none h
  · exact handleDisconnectBody_keeps (I := fun s => RJ s ∧ s.ping = none) c s e rc
      ⟨rj_low (low_stopPing c _) ⟨h.ri.same rfl rfl rfl, h.td⟩, (stopPing_zeroed _).1⟩
      (fun s hs => ⟨rj_callback c s _ _ hs.1, (callback_mono c s _ _).pn hs.2⟩)
      fun s hs => rj_teardown c s none hs.1

theorem rj_afterRead_true (c : Cfg) {k : St → St × R Unit} (hk : ∀ s1, RJ s1 → Ends (k s1)) (x : St × R Unit) (h : RJ x.1) :
    Ends (afterRead c k (asRead true x)) := by
  rcases x with ⟨s, ⟨⟨⟩⟩ | e | _⟩
  · simp only [asRead, afterRead]
    split
    · exact ⟨h, nofun⟩
    · exact hk s h
  · exact ⟨h, nofun⟩
  · exact ⟨h, nofun⟩

/-- `read()` in the loop: it returns a falsy value only from teardown, which leaves no ping thread -/
theorem rj_read (c : Cfg) {k : St → St × R Unit} (hk : ∀ s1, RJ s1 → Ends (k s1)) (s : St) (h : RJ s) :
    Ends (afterRead c k (Model.App.read c s)) := by
  obtain ⟨s1, l, e⟩ := read_step c s
  have h1 := rj_low l h
  generalize Model.App.read c s = x at e ⊢
  cases e with
  | cut => exact ⟨h1, nofun⟩
  | exc _ => exact ⟨h1, nofun⟩
  | call _ _ => exact rj_afterRead_true c hk _ (rj_callback c _ _ _ h1)
  | msg => exact rj_afterRead_true c hk _ (deliverMessage_keeps c (rj_callback c) _ _ _ _ h1)
  | closed =>
    obtain ⟨t1, t2⟩ := rj_teardown c _ _ h1
    generalize teardown c s1 _ = y at t1 t2 ⊢
    rcases y with ⟨s2, ⟨⟨⟩⟩ | e | _⟩ <;> exact ⟨t1, fun _ _ => t2⟩

theorem rj_dispLoop (c : Cfg) (n : Nat) : ∀ s, RJ s → Ends (dispLoop c n s) := by
  -- strong induction: `fun_cases` below splits `n` itself
  induction n using Nat.strongRecOn with | _ n ih => ?_
  intro s h
  have l := low_select c s
  fun_cases dispLoop c n s
  · exact ⟨⟨h.ri.emit rfl, h.td⟩, nofun⟩  -- out of fuel
  · exact ⟨h, fun _ hk => absurd hk (by simpa using ‹(!_) = true›)⟩  -- loop condition off
  · exact ⟨h, nofun⟩  -- TLS and no socket
  · exact ⟨rj_low (l.of_eq ‹_›) h, nofun⟩  -- cut in `select`
  · split  -- readable, or timed out
    · exact rj_read c (ih _ (Nat.lt_succ_self _)) _ (rj_low (l.of_eq ‹_›) h)
    · exact rj_afterRead_true c (ih _ (Nat.lt_succ_self _)) (_, .ok ()) (rj_low (l.of_eq ‹_›) h)

theorem ri_startPing (c : Cfg) (s : St) (h : RI s) (hp : s.ping = none) : RI (startPing c s) := by
  unfold startPing
  exact h.step rfl rfl (by rw [hp]; rfl)

theorem release_open (s : St) (rc : Bool) (h : rc = false → openSock s = false) : openSock (release s rc) = false := by
  fun_cases release s rc
  · fun_cases closeTransport s  -- reconnecting, a socket left:
    · rfl  -- open
    · exact (openSock_some rfl).trans (Bool.eq_false_iff.2 ‹_›)  -- released already
    · cases ‹s.sock = some _›.symm.trans ‹_›
  · simp [openSock, *]  -- reconnecting, none left
  · exact h (Bool.eq_false_iff.2 ‹_›)  -- first connection

theorem rj_setSock (c : Cfg) (s : St) (rc : Bool) (h : RJ s) (hk : s.keepRunning = true) (hp : s.ping = none)
    (hno : rc = false → openSock s = false) : Ends (setSock c s rc) := by
  unfold setSock
  have l0 := low_release c s rc
  have o0 := release_open s rc hno
  generalize release s rc = s0 at l0 o0 ⊢
  obtain ⟨w, ho, l, -⟩ := connect_step c s0
  have j0 := rj_low l0 h
  have j1 : RJ (connect s0).1 :=
    rj_low l ⟨j0.ri.step rfl (by rw [o0, openSock_some (w := w) rfl, ho]; rfl) rfl, j0.td⟩
  have e_kr : (connect s0).1.keepRunning = true := l.frame.kr.trans (l0.frame.kr.trans hk)
  have e_ping : (connect s0).1.ping = none := l.frame.pn (l0.frame.pn hp)
  generalize connect s0 = x at j1 e_kr e_ping ⊢
  fun_cases afterConnect c rc x
  · exact rj_handleDisconnect c _ _ rc j1  -- the dial failed
  · exact ⟨j1, nofun⟩  -- cut
  rename_i s1  -- connected
  have j2 : RJ (if c.iv ≠ 0 then startPing c s1 else s1) := by
    split
    · exact ⟨ri_startPing c s1 j1.ri e_ping, fun hd => by rw [(j1.td hd).1] at e_kr; cases e_kr⟩
    · exact j1
  have j3 := rj_callback c _ (openCb c rc) [] j2
  generalize callback c _ (openCb c rc) [] = y at j3 ⊢
  fun_cases afterOpen c rc y
  · exact rj_handleDisconnect c _ _ rc j3  -- the opening callback raised
  · exact ⟨j3, nofun⟩  -- cut
  · exact rj_handleDisconnect c _ _ rc j3  -- it closed the socket
  have j4 := rj_dispLoop c c.fuel _ j3
  generalize dispLoop c c.fuel _ = z at j4 ⊢
  fun_cases afterLoop c rc z
  · exact rj_handleDisconnect c _ _ rc j4.1  -- the loop raised
  · exact j4

theorem rj_rlNext (k : St → St × R Unit) (x : St × R Unit) (hx : Ends x)
    (hk : ∀ s, RJ s → (s.keepRunning = true → s.ping = none) → RJ (k s).1) : RJ (rlNext k x).1 := by
  fun_cases rlNext k x
  · exact hk _ hx.1 (hx.2 rfl)
  · exact hx.1

theorem rj_reconnectLoop (c : Cfg) : ∀ (n : Nat) (s : St), RJ s → (s.keepRunning = true → s.ping = none) →
    RJ (reconnectLoop c n s).1 := by
  intro n
  induction n with
  | zero =>
    intro s h _
    exact ⟨h.ri.emit rfl, h.td⟩
  | succ m ih =>
    intro s h hp
    rcases reconnectLoop_step c m s with ⟨_, e⟩ | ⟨s2, hk, l, e | e⟩ <;> rw [e]
    · exact h
    · exact rj_low l h
    · exact rj_rlNext _ _ (rj_setSock c s2 true (rj_low l h) (l.frame.kr.trans hk) (l.frame.pn (hp hk)) nofun) ih

theorem rj_runBody (c : Cfg) (s : St) (h : RJ s) (hk : s.keepRunning = true) (hp : s.ping = none)
    (hno : openSock s = false) : RJ (runBody c s).1 := by
  unfold runBody
  apply afterBody_keeps c fun s hs => (rj_teardown c s none hs).1
  rw [firstStage_eq]
  refine rj_rlNext _ _ (rj_setSock c s false h hk hp fun _ => hno) fun s1 h1 hp1 => ?_
  split
  · exact rj_reconnectLoop c c.fuel s1 h1 hp1
  · exact h1

theorem ri_runForever (c : Cfg) (s0 : St) (h : RI s0) (hs : s0.sock = none) (hp : s0.ping = none) :
    RI (runForever c s0) := by
  unfold runForever runForeverO
  split
  · exact h.emit rfl
  · split
    · exact h.emit rfl
    · have jb := rj_runBody c (prologue s0) ⟨h.same rfl rfl rfl, nofun⟩ rfl hp (by simp [openSock, prologue, hs])
      generalize runBody c (prologue s0) = x at jb ⊢
      obtain ⟨s1, r1⟩ := x
      cases r1 with
      | halt => exact jb.ri
      | ok u =>
        cases u
        exact jb.ri.emit rfl
      | exc e => exact jb.ri.emit rfl

end WS.Lemmas.App
