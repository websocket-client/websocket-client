/-
  WS.Lemmas.Keepalive — lemmas about WS.Model.Keepalive: the step functions as equations, the normal form of an iteration
  of the select loop, detection of a silent peer, the ping thread's grid.
-/
import WS.Model.Keepalive
namespace WS.Lemmas.Keepalive
open WS.Model.Keepalive

@[simp] theorem gen_pingStamp : Gen.appPingStampWhenAnswered = true := by decide
@[simp] theorem gen_pongStamp : Gen.appPongStampWhenOutstanding = true := by decide

theorem fire_eq (iv : Nat) (s : St) :
    fire iv s = { s with first := false, wake := s.wake + iv,
                         lastPing := if s.first = true ∨ s.lastPong < s.lastPing then s.lastPing else s.wake,
                         pings := if s.first = true then s.pings else s.pings ++ [s.wake] } := by
  unfold fire
  cases s.first <;> simp

theorem consume_cases (s : St) :
    (ready s = false ∧ consume s = s) ∨
    ∃ a k rest, s.arr = (a, k) :: rest ∧ a ≤ s.now ∧ consume s =
      { s with arr := rest, lastPong := if k = .pong ∧ s.lastPong < s.lastPing then s.now else s.lastPong } := by
  unfold consume ready
  split
  · rename_i a k rest harr
    by_cases h : a ≤ s.now
    · exact Or.inr ⟨a, k, rest, harr, h, by cases k <;> simp [h, -Nat.not_lt]⟩
    · exact Or.inl (by simp [h])
  · exact Or.inl ⟨rfl, rfl⟩

theorem checkFails_iff (to : Nat) (s : St) :
    checkFails to s = true ↔
      s.lastPing ≠ 0 ∧ s.lastPing + to < s.now ∧ (s.lastPong < s.lastPing ∨ s.lastPing + to < s.lastPong) := by
  simp only [checkFails, Bool.and_eq_true, Bool.or_eq_true, decide_eq_true_eq, ne_eq]
  omega

/-- `s'` comes from `s` by steps of the ping thread alone: timed wakes and decisions of the schedule (given as its own
    induction principle).  It forgets WHEN the thread fires (`wake ≤ t`): only what every `fire` keeps whatever the clock
    goes through it; `AInv` walks `advance` itself (`KeepaliveNFP.ainv_advance`). -/
def Pinged (iv : Nat) (s s' : St) : Prop :=
  ∀ P : St → Prop, (∀ s r, P s → P { s with sched := r }) → (∀ s, P s → P (fire iv s)) → P s → P s'

theorem advance_pinged (iv : Nat) : ∀ (n : Nat) (s : St) (t : Nat), Pinged iv s (advance iv n s t) := by
  intro n
  induction n with
  | zero =>
    intro s t P _ _ h
    exact h
  | succ m ih =>
    intro s t P hs hf h
    rw [advance]
    split
    · exact ih _ t P hs hf (hf s h)  -- a ping due before `t`
    · split
      · split  -- one due at `t`, by the schedule: the thread first, main first, exhausted
        · exact hf _ (hs s _ h)
        · exact hs s _ h
        · exact h
      · exact h  -- none due

theorem target_bounds (to : Nat) (s : St) : s.now ≤ target to s ∧ target to s ≤ s.now + to := by
  unfold target
  split
  · split <;> omega
  · omega

theorem target_ready (to : Nat) (s : St) (h : ready s = true) : target to s = s.now := by
  unfold ready at h
  unfold target
  split
  · rename_i a _ _ harr
    simp only [harr, decide_eq_true_eq] at h
    rw [if_pos (by omega)]
    omega
  · rename_i harr
    simp [harr] at h

theorem target_timeout (to : Nat) (s : St) (h : ready { s with now := target to s } = false) :
    target to s = s.now + to := by
  unfold target at h ⊢
  unfold ready at h
  split
  · rename_i a k rest ha
    simp only [ha, decide_eq_false_iff_not] at h
    by_cases hsoon : a ≤ s.now + to
    · rw [if_pos hsoon] at h
      omega
    · exact if_neg hsoon
  · rfl

theorem iter_eq (iv to : Nat) (s : St) :
    ∃ s1, Pinged iv s s1 ∧ iter iv to s = consume { s1 with now := target to s } := by
  unfold iter
  split
  · rename_i h
    exact ⟨s, fun _ _ _ h => h, by rw [target_ready to s h]⟩
  · exact ⟨_, advance_pinged iv _ s _, rfl⟩

theorem iter_progress (iv to : Nat) (s : St) :
    (iter iv to s).now = target to s ∧ (iter iv to s).arr.length ≤ s.arr.length ∧
    ((iter iv to s).arr.length = s.arr.length → target to s = s.now + to) := by
  obtain ⟨s1, hp, e⟩ := iter_eq iv to s
  have harr : s1.arr = s.arr := hp (fun s' => s'.arr = s.arr) (fun _ _ h => h) (fun s' h => by rw [fire_eq]; exact h) rfl
  rw [e]
  rcases consume_cases { s1 with now := target to s } with ⟨hr, e'⟩ | ⟨a, k, rest, ha, -, e'⟩ <;> rw [e', ← harr]
  · exact ⟨rfl, Nat.le_refl _, fun _ => target_timeout to s (by simpa only [ready, harr] using hr)⟩
  · rw [show s1.arr = (a, k) :: rest from ha]
    exact ⟨rfl, Nat.le_succ _, fun h => absurd h (Nat.ne_of_lt (Nat.lt_succ_self _))⟩

/-- arrivals are only data frames (the peer has stopped answering) -/
def Silent (arr : List (Nat × Kind)) : Prop := ∀ x ∈ arr, x.2 = .data

/-- the window after the ping sent at `T` that is not answered: `last_ping_tm = T` (and it stays: the pings that follow do
    not move it), no pong since, the peer is silent -/
structure Window (iv to T : Nat) (s : St) : Prop where
  lp : s.lastPing = T
  tpos : T ≠ 0
  lq : s.lastPong < T
  nf : s.first = false
  lo : T ≤ s.now
  hi : s.now ≤ T + to
  silent : Silent s.arr

/-- a later ping does not move `last_ping_tm` while one is unanswered, a data frame does not move `last_pong_tm` -/
theorem window_iter {iv to T : Nat} {s : St} (w : Window iv to T s) :
    (iter iv to s).lastPing = T ∧ (iter iv to s).lastPong < T ∧ (iter iv to s).first = false ∧
    Silent (iter iv to s).arr := by
  obtain ⟨s1, hp, e⟩ := iter_eq iv to s
  obtain ⟨h1, h2, h3, h4⟩ := hp (fun s' => s'.lastPing = T ∧ s'.lastPong < T ∧ s'.first = false ∧ Silent s'.arr)
    (fun _ _ h => h)
    (fun s' ⟨h1, h2, h3, h4⟩ => by rw [fire_eq]; exact ⟨(if_pos (Or.inr (h1 ▸ h2))).trans h1, h2, rfl, h4⟩)
    ⟨w.lp, w.lq, w.nf, w.silent⟩
  rw [e]
  rcases consume_cases { s1 with now := target to s } with ⟨-, e'⟩ | ⟨a, k, rest, ha, -, e'⟩ <;> rw [e']
  · exact ⟨h1, h2, h3, h4⟩
  · have ha : s1.arr = (a, k) :: rest := ha
    rw [ha] at h4
    cases h4 (a, k) (List.mem_cons_self ..)
    exact ⟨h1, h2, h3, fun x hx => h4 x (List.mem_cons_of_mem _ hx)⟩

/-- the measure of `detect_in_window` drops in an iteration that stays inside the window: an arrival fewer, or a full
    timeout, which then started at `T` and ends at `T + to` -/
theorem window_measure {T to now t len len' : Nat} (hto : 0 < to) (hlo : T ≤ now) (htg : now ≤ t) (hhi : t ≤ T + to)
    (hle : len' ≤ len) (h : len' = len → t = now + to) : len' + (T + 1 - t) < len + (T + 1 - now) := by
  omega

theorem detect_in_window (iv to horizon T : Nat) (hto : 0 < to) (hz : T + 2 * to ≤ horizon) :
    ∀ (fuel : Nat) (s : St), Window iv to T s → s.arr.length + (T + 1 - s.now) < fuel →
      ∃ r, (loop iv to horizon fuel s).2 = some r ∧ T + to < r ∧ r ≤ T + 2 * to := by
  intro fuel
  induction fuel with
  | zero =>
    intro s _ hf
    exact absurd hf (Nat.not_lt_zero _)
  | succ n ih =>
    intro s w hf
    obtain ⟨htg, htl⟩ := target_bounds to s
    obtain ⟨it_lp, it_lq, it_first, it_silent⟩ := window_iter w
    obtain ⟨it_now, it_le, it_full⟩ := iter_progress iv to s
    have h2 : target to s ≤ T + 2 * to := by
      rw [Nat.two_mul, ← Nat.add_assoc]
      exact Nat.le_trans htl (Nat.add_le_add_right w.hi to)
    rw [loop, decide_eq_false (Nat.not_lt.mpr (Nat.le_trans h2 hz)), Bool.and_false]
    simp only [Bool.false_eq_true, ↓reduceIte]
    have hchk : checkFails to (iter iv to s) = true ↔ T + to < target to s := by
      rw [checkFails_iff, it_lp, it_now]
      exact ⟨fun h => h.2.1, fun h => ⟨w.tpos, h, Or.inl it_lq⟩⟩
    by_cases hlate : T + to < target to s
    · -- `select` returned later than `T + to`: `check()` fires, at that tick
      rw [if_pos (hchk.mpr hlate), it_now]
      exact ⟨_, rfl, hlate, h2⟩
    · -- not yet: the next state is in the window again, with an arrival fewer or `T + to` reached
      rw [if_neg (mt hchk.mp hlate)]
      have hhi := Nat.le_of_not_lt hlate
      refine ih _ ⟨it_lp, w.tpos, it_lq, it_first, ?_, ?_, it_silent⟩ ?_ <;> rw [it_now]
      · exact Nat.le_trans w.lo htg
      · exact hhi
      · exact Nat.lt_of_lt_of_le (window_measure hto w.lo htg hhi it_le it_full) (Nat.le_of_lt_succ hf)

/-- the state after `k` iterations of the loop -/
def stepN (iv to : Nat) : Nat → St → St
  | 0, s => s
  | k + 1, s => stepN iv to k (iter iv to s)

/-- the first `k` iterations neither reach the horizon nor report -/
def quietFor (iv to horizon : Nat) : Nat → St → Prop
  | 0, _ => True
  | k + 1, s => (!ready s && decide (target to s > horizon)) = false ∧ checkFails to (iter iv to s) = false ∧
      quietFor iv to horizon k (iter iv to s)

theorem loop_skip (iv to horizon : Nat) : ∀ (k n : Nat) (s : St), quietFor iv to horizon k s →
    loop iv to horizon (k + n) s = loop iv to horizon n (stepN iv to k s) := by
  intro k
  induction k with
  | zero =>
    intro n s _
    rw [Nat.zero_add]
    rfl
  | succ j ih =>
    intro n s ⟨h1, h2, h3⟩
    rw [Nat.add_right_comm, loop, h1]
    simp only [Bool.false_eq_true, ↓reduceIte, h2]
    exact ih n _ h3

theorem stepN_arr_length_le (iv to : Nat) : ∀ (k : Nat) (s : St), (stepN iv to k s).arr.length ≤ s.arr.length := by
  intro k
  induction k with
  | zero =>
    intro s
    exact Nat.le_refl _
  | succ j ih =>
    intro s
    exact Nat.le_trans (ih _) (iter_progress iv to s).2.1

def pingTimes (iv n : Nat) : List Nat := (List.range n).map fun k => (k + 2) * iv

theorem pingTimes_succ (iv n : Nat) : pingTimes iv (n + 1) = pingTimes iv n ++ [(n + 2) * iv] := by
  simp [pingTimes, List.range_succ]

/-- the ping thread's own fields: the pings sent so far lie on the grid, the next wake is the next grid point (after a
    silent first wait of one interval) -/
def PInv (iv : Nat) (s : St) : Prop :=
  s.pings = pingTimes iv s.pings.length ∧ s.wake = (s.pings.length + if s.first then 1 else 2) * iv

theorem pinv_init (iv : Nat) (arr : List (Nat × Kind)) (sched : List Bool) : PInv iv (init iv arr sched) :=
  ⟨rfl, (Nat.one_mul iv).symm⟩

theorem pinv_fire (iv : Nat) (s : St) (h : PInv iv s) : PInv iv (fire iv s) := by
  obtain ⟨h1, h2⟩ := h
  rw [fire_eq]
  cases hf : s.first with
  | true =>
    rw [hf] at h2
    exact ⟨h1, h2 ▸ (Nat.succ_mul _ iv).symm⟩
  | false =>
    simp only [hf, Bool.false_eq_true, ↓reduceIte] at h2
    simp only [PInv, Bool.false_eq_true, ↓reduceIte, List.length_append, List.length_singleton, pingTimes_succ, ← h1, ← h2,
      true_and]
    exact h2 ▸ (Nat.succ_mul _ iv).symm

theorem pinv_iter (iv to : Nat) (s : St) (h : PInv iv s) : PInv iv (iter iv to s) := by
  obtain ⟨s1, hp, e⟩ := iter_eq iv to s
  rw [e]
  -- nothing read, or an arrival: `PInv` reads none of the fields that change
  rcases consume_cases { s1 with now := target to s } with ⟨-, e'⟩ | ⟨_, _, _, -, -, e'⟩ <;> rw [e'] <;>
    exact hp (PInv iv) (fun _ _ h => h) (pinv_fire iv) h

theorem pinv_loop (iv to horizon : Nat) : ∀ (n : Nat) (s : St), PInv iv s → PInv iv (loop iv to horizon n s).1 := by
  intro n
  induction n with
  | zero =>
    intro s h
    exact h
  | succ m ih =>
    intro s h
    rw [loop]
    split
    · exact advance_pinged iv _ _ _ (PInv iv) (fun _ _ h => h) (pinv_fire iv) h
    · simp only []
      split
      · exact pinv_iter iv to s h
      · exact ih _ (pinv_iter iv to s h)

end WS.Lemmas.Keepalive
