/-
  WS.Lemmas.Timeouts — `frame_buffer.recv_strict` over a transport of byte chunks AND timeouts, in one induction: the call
  completes, or raises TIMEOUT having consumed exactly one timeout event with every pending byte and the stage fields
  untouched, or (script exhausted) CLOSED / TIMEOUT according to the tail — and a call that fails without having met a timeout
  event had fewer than `n` bytes left.  A chunks-only transport is the case `timeoutsOf = 0` (`chunks_iff`).
-/
import WS.Lemmas.RecvStrict
namespace WS.Lemmas.Timeouts
open WS WS.Model WS.Lemmas.RecvStrict

/-- a transport of non-empty chunks and timeouts (what C03 quantifies over). -/
def Plain (inp : List TEv) : Prop := ∀ e ∈ inp, (∃ bs, e = TEv.chunk bs ∧ bs ≠ []) ∨ e = TEv.timeout

def timeoutsOf : List TEv → Nat
  | [] => 0
  | .timeout :: rest => timeoutsOf rest + 1
  | _ :: rest => timeoutsOf rest

/-- the parser-stage fields and the transport's tail are the same. -/
def SameStage (c c' : Conn) : Prop :=
  c'.hdr = c.hdr ∧ c'.len = c.len ∧ c'.maskv = c.maskv ∧ c'.sock.tail = c.sock.tail

theorem plain_tail {e : TEv} {rest : List TEv} (h : Plain (e :: rest)) : Plain rest :=
  (List.forall_mem_cons.1 h).2

theorem chunks_iff (inp : List TEv) : Chunks inp ↔ Plain inp ∧ timeoutsOf inp = 0 := by
  induction inp with
  | nil => exact ⟨fun _ => ⟨nofun, rfl⟩, fun _ => nofun⟩
  | cons e rest ih =>
    refine (List.forall_mem_cons.trans (and_congr_right' ih)).trans ⟨?_, ?_⟩
    · rintro ⟨⟨bs, rfl, hbs⟩, hp, ht⟩
      exact ⟨List.forall_mem_cons.2 ⟨.inl ⟨bs, rfl, hbs⟩, hp⟩, ht⟩
    · rintro ⟨hp, ht⟩
      obtain ⟨⟨bs, rfl, hbs⟩ | rfl, h2⟩ := List.forall_mem_cons.1 hp
      · exact ⟨⟨bs, rfl, hbs⟩, h2, ht⟩
      · cases ht

theorem plain_unread {bs : Bytes} {rest : List TEv} (r : Bytes) (h : Plain (.chunk bs :: rest)) : Plain (unread r rest) := by
  cases r with
  | nil => exact plain_tail h
  | cons a t => exact List.forall_mem_cons.2 ⟨.inl ⟨_, rfl, List.cons_ne_nil _ _⟩, plain_tail h⟩

theorem timeoutsOf_unread (r : Bytes) (rest : List TEv) : timeoutsOf (unread r rest) = timeoutsOf rest := by
  cases r <;> rfl

theorem bytesOf_timeout (rest : List TEv) : bytesOf (.timeout :: rest) = bytesOf rest := rfl

/-- outcome of the `recv_strict` loop on chunks + timeouts. -/
def StrictOut (c : Conn) (n : Nat) (r : Option Exn × Conn) : Prop :=
  (r.1 = none ∧ n ≤ r.2.buf.length ∧ pending r.2 = pending c ∧ Live r.2 ∧ Plain r.2.sock.inp ∧ SameStage c r.2 ∧
      timeoutsOf r.2.sock.inp = timeoutsOf c.sock.inp) ∨
  (r.1 = some .timeout ∧ pending r.2 = pending c ∧ Live r.2 ∧ Plain r.2.sock.inp ∧ SameStage c r.2 ∧
      (timeoutsOf r.2.sock.inp + 1 = timeoutsOf c.sock.inp ∨
       (r.2.sock.inp = [] ∧ c.sock.tail = .timeout ∧ timeoutsOf c.sock.inp = 0))) ∨
  (r.1 = some .closed ∧ c.sock.tail = .eof ∧ timeoutsOf c.sock.inp = 0)

theorem recvStrictLoop_plain (fuel : Nat) : ∀ (c : Conn) (n : Nat), Live c → Plain c.sock.inp →
    (bytesOf c.sock.inp).length < fuel →
    StrictOut c n (Conn.recvStrictLoop fuel c n) ∧
    ((Conn.recvStrictLoop fuel c n).1 = none → SameRest c (Conn.recvStrictLoop fuel c n).2) ∧
    ((Conn.recvStrictLoop fuel c n).1 ≠ none → timeoutsOf c.sock.inp = 0 → (pending c).length < n) := by
  induction fuel with
  | zero =>
    intro c n _ _ h
    omega
  | succ f ih =>
    intro c n hl hpl hfu
    by_cases hb : c.buf.length ≥ n
    · rw [Conn.recvStrictLoop, if_pos hb]
      exact ⟨Or.inl ⟨rfl, hb, rfl, hl, hpl, ⟨rfl, rfl, rfl, rfl⟩, rfl⟩, fun _ => SameRest.rfl' c, fun h => absurd rfl h⟩
    · rw [Conn.recvStrictLoop, if_neg hb]
      cases hinp : c.sock.inp with
      | nil =>
        -- script exhausted: the buffer is all there is
        have hshort : (pending c).length < n := by
          simp only [pending, hinp, bytesOf, List.append_nil]
          omega
        cases ht : c.sock.tail with
        | eof =>
          simp only [sockRecv_nil_eof c _ hl hinp ht]
          exact ⟨Or.inr (Or.inr ⟨rfl, ht, hinp ▸ rfl⟩), nofun, fun _ _ => hshort⟩
        | timeout =>
          simp only [sockRecv_nil_timeout c _ hl hinp ht]
          exact ⟨Or.inr (Or.inl ⟨rfl, rfl, hl, hinp ▸ nofun, ⟨rfl, rfl, rfl, rfl⟩, Or.inr ⟨hinp, ht, hinp ▸ rfl⟩⟩), nofun,
            fun _ _ => hshort⟩
      | cons e rest =>
        rw [hinp] at hpl hfu
        rcases hpl e List.mem_cons_self with ⟨bs, rfl, hbs⟩ | rfl
        · -- a chunk: its first `m` bytes move to the buffer and the loop goes on; of what `StrictOut` reads, the new state
          -- differs from `c` only under `pending` and `timeoutsOf`, whose values are the same (`hp`, `timeoutsOf_unread`)
          simp only [sockRecv_chunk c _ bs rest hl hinp hbs]
          have hm : 0 < min Gen.recvCap (n - c.buf.length) := by
            have : 0 < Gen.recvCap := by decide
            omega
          generalize min Gen.recvCap (n - c.buf.length) = m at hm
          have hbytes : bs.take m ++ bytesOf (unread (bs.drop m) rest) = bytesOf (.chunk bs :: rest) := by
            rw [bytesOf_unread, ← List.append_assoc, List.take_append_drop, bytesOf]
          obtain ⟨io, isr, ish⟩ := ih { c with buf := c.buf ++ bs.take m, sock := { c.sock with
            inp := unread (bs.drop m) rest, calls := c.sock.calls + 1, recvSizes := m :: c.sock.recvSizes } } n hl
            (plain_unread _ hpl) (show (bytesOf (unread (bs.drop m) rest)).length < f by
              have := congrArg List.length hbytes
              have := List.length_pos_iff.2 hbs
              simp only [List.length_append, List.length_take] at *
              omega)
          have hp : pending { c with buf := c.buf ++ bs.take m, sock := { c.sock with
              inp := unread (bs.drop m) rest, calls := c.sock.calls + 1, recvSizes := m :: c.sock.recvSizes } } = pending c := by
            simp only [pending, hinp, List.append_assoc, hbytes]
          refine ⟨?_, fun h => .trans ⟨_, _, _, _, rfl⟩ (isr h), fun h h0 => hp ▸ ish h ((timeoutsOf_unread _ _).trans h0)⟩
          unfold StrictOut at io ⊢
          rw [hp, show timeoutsOf (unread _ _) = timeoutsOf c.sock.inp by rw [hinp]; exact timeoutsOf_unread _ _] at io
          exact io
        · -- a timeout: raised at once, nothing else moves
          simp only [sockRecv_timeout c _ rest hl hinp]
          exact ⟨Or.inr (Or.inl ⟨rfl, by simp only [pending, hinp]; rfl, hl, plain_tail hpl, ⟨rfl, rfl, rfl, rfl⟩,
            Or.inl (by rw [hinp]; rfl)⟩), nofun, fun _ h0 => absurd h0 (Nat.succ_ne_zero _)⟩

/-- `recv_strict(n)` takes the first `n` pending bytes; a call that fails without a timeout event in the script had fewer
    than `n` bytes to come. -/
theorem recvStrict_plain (c : Conn) (n : Nat) (hl : Live c) (hp : Plain c.sock.inp) :
    (∃ v c', c.recvStrict n = (.ok v, c') ∧ v.length = n ∧ v ++ pending c' = pending c ∧
        Plain c'.sock.inp ∧ timeoutsOf c'.sock.inp = timeoutsOf c.sock.inp ∧ SameRest c c') ∨
    (∃ c', c.recvStrict n = (.error .timeout, c') ∧ pending c' = pending c ∧ Live c' ∧ Plain c'.sock.inp ∧ SameStage c c' ∧
        (timeoutsOf c.sock.inp = 0 → (pending c).length < n)) ∨
    (∃ c', c.recvStrict n = (.error .closed, c') ∧ timeoutsOf c.sock.inp = 0 ∧ (pending c).length < n) := by
  have h := recvStrictLoop_plain (c.sock.size + 1) c n hl hp (by have := bytesOf_add_two_le_size c.sock; omega)
  unfold Conn.recvStrict
  generalize Conn.recvStrictLoop (c.sock.size + 1) c n = r at h
  obtain ⟨e, c1⟩ := r
  obtain ⟨ho, hsr, hsh⟩ := h
  dsimp only [StrictOut] at ho hsr hsh ⊢
  rcases ho with ⟨rfl, hbuf, hpend, _, hplain, _, hto⟩ | ⟨rfl, hpend, hlive, hplain, hstage, _⟩ | ⟨rfl, _, hto0⟩
  · refine Or.inl ⟨_, { c1 with buf := c1.buf.drop n }, rfl, ?_, ?_, hplain, hto, (hsr rfl).trans ⟨_, _, _, _, rfl⟩⟩
    · rw [List.length_take]
      omega
    · rw [← hpend, pending, pending, ← List.append_assoc, List.take_append_drop]
  · exact Or.inr (Or.inl ⟨_, rfl, hpend, hlive, hplain, hstage, hsh nofun⟩)
  · exact Or.inr (Or.inr ⟨_, rfl, hto0, hsh nofun hto0⟩)

end WS.Lemmas.Timeouts
