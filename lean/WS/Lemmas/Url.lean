/-
  WS.Lemmas.Url — `partition` / `rpartition` on a string cut at a separator, the equations of
  `parse_url` by URL shape, and the agreement of `parse_url` with the Spec's classifier (C18).
-/
import WS.Lemmas.Py
import WS.Spec.Rfc3986
import WS.Model.Url
namespace WS.Lemmas.Url
open WS WS.Py WS.Net
open WS.Lemmas.Py (not_mem_of_all)

theorem partition_cons_eq (c : Char) (xs : Str) : partition c (c :: xs) = ([], true, xs) := by
  simp [partition]

theorem partition_skip {c : Char} {a : Str} (h : c ∉ a) (t : Str) :
    partition c (a ++ t) = (a ++ (partition c t).1, (partition c t).2.1, (partition c t).2.2) := by
  have hp : ∀ x ∈ a, (x != c) = true := fun x hx => bne_iff_ne.mpr fun e => h (e ▸ hx)
  unfold partition
  rw [List.takeWhile_append_of_pos hp, List.dropWhile_append_of_pos hp]
  cases List.dropWhile (· != c) t <;> rfl

theorem partition_append {c : Char} {a : Str} (b : Str) (h : c ∉ a) :
    partition c (a ++ c :: b) = (a, true, b) := by
  rw [partition_skip h, partition_cons_eq, List.append_nil]

theorem partition_notin {c : Char} {s : Str} (h : c ∉ s) : partition c s = (s, false, []) := by
  simpa [partition] using partition_skip h []

theorem partition_eq (c : Char) (s : Str) :
    ((partition c s).1, (partition c s).2.2) = (s.takeWhile (· != c), (s.dropWhile (· != c)).drop 1) := by
  unfold partition
  cases s.dropWhile (· != c) <;> rfl

theorem cut_eq (c : Char) (s : Str) :
    Model.Url.cut c s = (s.takeWhile (· != c), (s.dropWhile (· != c)).drop 1) := by
  unfold Model.Url.cut partition
  cases List.dropWhile (fun x => x != c) s <;> rfl

theorem rpartition_append {c : Char} (a : Str) {b : Str} (h : c ∉ b) :
    rpartition c (a ++ c :: b) = (a, true, b) := by
  unfold rpartition
  have : (a ++ c :: b).reverse = b.reverse ++ c :: a.reverse := by simp
  rw [this, partition_append _ (by simpa using h)]
  simp

theorem rpartition_notin {c : Char} {s : Str} (h : c ∉ s) : rpartition c s = ([], false, s) := by
  unfold rpartition
  rw [partition_notin (by simpa using h)]
  rfl

theorem rpartition_spec (c : Char) (s : Str) :
    (∃ a b, s = a ++ c :: b ∧ c ∉ b ∧ rpartition c s = (a, true, b)) ∨
    (c ∉ s ∧ rpartition c s = ([], false, s)) := by
  by_cases h : c ∈ s
  · obtain ⟨b, a, hs, hb⟩ := List.eq_append_cons_of_mem (List.mem_reverse.mpr h)
    have hs' : s = a.reverse ++ c :: b.reverse := by simpa using congrArg List.reverse hs
    have hb' : c ∉ b.reverse := by simpa using hb
    exact .inl ⟨_, _, hs', hb', hs' ▸ rpartition_append _ hb'⟩
  · exact .inr ⟨h, rpartition_notin h⟩

open Model.Url

/-- `port = 0; if parsed.port: port = parsed.port`, and the scheme's default `if not port`. -/
def finalPort (dflt : Nat) (p : Option Nat) : Nat :=
  let port0 := match p with
    | some n => n
    | none => 0
  if port0 == 0 then dflt else port0

/-- what `parse_url` computes from the authority and what follows it, the scheme being ws
    (`secure = false`) or wss. -/
def parseHier (v6ok : Str → Bool) (secure : Bool) (auth tail : Str) : Except Exn Target :=
  if bracketsOk v6ok auth then
    match hostname auth with
    | none => .error .valueError
    | some host =>
      match port auth with
      | .error e => .error e
      | .ok p =>
        let bf := tail.takeWhile (· != '#')
        .ok ⟨host, finalPort (if secure then Gen.defaultPortWss else Gen.defaultPortWs) p,
          Spec.Url.resource (bf.takeWhile (· != '?')) ((bf.dropWhile (· != '?')).drop 1), secure⟩
  else .error .valueError

theorem urlsplit_slashes (v6ok : Str → Bool) (body dflt : Str) :
    urlsplit v6ok ('/' :: '/' :: body) dflt =
      let auth := body.takeWhile (fun c => !isDelim c)
      let rest := body.dropWhile (fun c => !isDelim c)
      let bf := rest.takeWhile (· != '#')
      if bracketsOk v6ok auth then
        .ok ⟨dflt, auth, bf.takeWhile (· != '?'), (bf.dropWhile (· != '?')).drop 1, (rest.dropWhile (· != '#')).drop 1⟩
      else .error .valueError := by
  unfold urlsplit
  have hp : partition ':' ('/' :: '/' :: body) =
      ('/' :: '/' :: (partition ':' body).1, (partition ':' body).2.1, (partition ':' body).2.2) :=
    partition_skip (a := ['/', '/']) (by decide) body
  rw [hp]
  rcases (partition ':' body) with ⟨a, f, b⟩
  -- with a ':' further on (`f = true`) or without: '/' is no letter, so no scheme is split off
  have hslash : isAlphaC '/' = false := by decide
  by_cases hb : bracketsOk v6ok (body.takeWhile (fun c => !isDelim c)) = true
  · cases f
    · simp [hb, cut_eq]
    · simp [hslash, hb, cut_eq]
  · cases f
    · simp [hb]
    · simp [hslash, hb]

theorem port_error {netloc : Str} {e : Exn} (h : port netloc = .error e) : e = .valueError := by
  unfold port at h
  split at h
  · cases h
  · split at h
    · dsimp only at h
      split at h
      · cases h
      · cases h
        rfl
    · cases h
      rfl

theorem parseHier_error {v6ok : Str → Bool} {secure : Bool} {auth tail : Str} {e : Exn}
    (h : parseHier v6ok secure auth tail = .error e) : e = .valueError := by
  unfold parseHier at h
  split at h
  · split at h
    · cases h  -- no host name
      rfl
    · split at h
      · next he =>  -- the port is refused
        cases h
        exact port_error he
      · cases h
  · cases h  -- the brackets are refused
    rfl

/-- generated facts (T): `parse_url` tests for "//" and uses `urlsplit` (false of a tree that
    still calls `urlparse` or lacks the test). -/
theorem url_shape : Gen.parseUrlRequiresSlashes = true ∧ Gen.parseUrlUsesUrlsplit = true := by decide

theorem defaults : Gen.defaultPortWs = 80 ∧ Gen.defaultPortWss = 443 := by decide

theorem parseUrl_no_colon (v6ok : Str → Bool) {u : Str} (h : u.contains ':' = false) :
    parseUrl v6ok u = .error .valueError := by
  unfold parseUrl
  rw [h]
  rfl

/-- `h`: `rest` does not begin with "//". -/
theorem parseUrl_no_slashes (v6ok : Str → Bool) {scheme rest : Str} (hs : ':' ∉ scheme)
    (h : ∀ body, rest = '/' :: '/' :: body → False) :
    parseUrl v6ok (scheme ++ ':' :: rest) = .error .valueError := by
  have hp : ("//".toList).isPrefixOf rest = false :=
    Bool.eq_false_iff.mpr fun hp =>
      (List.isPrefixOf_iff_prefix.mp hp).elim fun body hb => h body hb.symm
  have hc : (scheme ++ ':' :: rest).contains ':' = true := by simp
  unfold parseUrl
  simp only [hc, split1, partition_append rest hs, url_shape.1, hp, Bool.not_true, Bool.not_false, Bool.and_self,
    Bool.false_eq_true, if_false, if_true]

/-- the scheme is tested last in the code, first here. -/
theorem parseUrl_slashes (v6ok : Str → Bool) {scheme : Str} (body : Str) (hs : ':' ∉ scheme) :
    parseUrl v6ok (scheme ++ ':' :: '/' :: '/' :: body) =
      if scheme == "ws".toList || scheme == "wss".toList then
        parseHier v6ok (scheme == "wss".toList)
          (body.takeWhile (fun c => !isDelim c)) (body.dropWhile (fun c => !isDelim c))
      else .error .valueError := by
  have hc : (scheme ++ ':' :: '/' :: '/' :: body).contains ':' = true := by simp
  have hpre : ("//".toList).isPrefixOf ('/' :: '/' :: body) = true := by simp [List.isPrefixOf]
  unfold parseUrl
  simp only [hc, split1, partition_append _ hs, Bool.not_true, Bool.false_eq_true, if_false, url_shape.1, url_shape.2,
    Bool.true_and, hpre, if_true, urlsplit_slashes]
  generalize body.takeWhile (fun c => !isDelim c) = auth
  generalize body.dropWhile (fun c => !isDelim c) = tail
  unfold parseHier
  by_cases hb : bracketsOk v6ok auth = true
  · simp only [hb, if_true]
    cases hostname auth with
    | none => simp only [ite_self]
    | some host =>
      cases hp : port auth with
      | error e =>
        rw [port_error hp]
        simp only [ite_self]
      | ok p =>
        cases hws : scheme == "ws".toList
        · cases scheme == "wss".toList <;> rfl
        · rw [show (scheme == "wss".toList) = false by rw [eq_of_beq hws]; decide]
          rfl
  · simp only [hb, ite_self, Bool.false_eq_true, if_false]

open Spec.Url

theorem bracketsOk_append_left (v6ok : Str → Bool) {pre : Str} (s : Str) (h1 : '[' ∉ pre)
    (h2 : ']' ∉ pre) : bracketsOk v6ok (pre ++ s) = bracketsOk v6ok s := by
  unfold bracketsOk
  simp only [List.contains_eq_mem, List.mem_append, h1, h2, false_or, partition_skip h1]

theorem bracketsOk_bracket (v6ok : Str → Bool) {lit : Str} (after : Str) (h : ']' ∉ lit) :
    bracketsOk v6ok ('[' :: (lit ++ ']' :: after)) = v6ok lit := by
  unfold bracketsOk
  simp [partition_cons_eq, partition_append after h]

theorem bracketsOk_plain (v6ok : Str → Bool) {s : Str} (h1 : '[' ∉ s) (h2 : ']' ∉ s) :
    bracketsOk v6ok s = true := by
  simp [bracketsOk, h1, h2]

theorem hostinfoOf_bracket {lit : Str} (after : Str) (h : ']' ∉ lit) :
    hostinfoOf ('[' :: (lit ++ ']' :: after)) =
      (lit, if (partition ':' after).2.2.isEmpty then none else some (partition ':' after).2.2) := by
  simp [hostinfoOf, partition_cons_eq, partition_append after h]

theorem hostinfoOf_plain {s : Str} (h : '[' ∉ s) :
    hostinfoOf s =
      ((partition ':' s).1, if (partition ':' s).2.2.isEmpty then none else some (partition ':' s).2.2) := by
  unfold hostinfoOf
  rw [partition_notin h]
  rfl

theorem regName_excludes {s : Str} (h : s.all regNameChar = true) :
    ':' ∉ s ∧ '%' ∉ s ∧ '[' ∉ s ∧ ']' ∉ s :=
  ⟨not_mem_of_all h (by decide), not_mem_of_all h (by decide), not_mem_of_all h (by decide),
    not_mem_of_all h (by decide)⟩

theorem portOf_digits {p : Str} (h : portOf p ≠ .bad) : p.all isDigitC = true := by
  unfold portOf at h
  split at h
  · next h0 =>
    rw [h0]
    rfl
  · split at h
    · assumption
    · exact absurd rfl h

/-- `parse_url`'s "0 means default" agrees with the Spec's "absent means default" because the Spec's
    values start at 1. -/
theorem port_spec {netloc ptxt : Str}
    (hi : (hostinfo netloc).2 = if ptxt.isEmpty then none else some ptxt) (h : portOf ptxt ≠ .bad) :
    ∃ p, port netloc = .ok p ∧
      ∀ dflt, finalPort dflt p = match portOf ptxt with | .value n => n | _ => dflt := by
  unfold port
  rw [hi]
  unfold portOf at h ⊢
  by_cases h0 : ptxt = []
  · subst h0
    exact ⟨none, rfl, fun _ => rfl⟩
  · have h0' : ptxt.isEmpty = false := by simpa using h0
    simp only [h0, h0', if_false, Bool.false_eq_true] at h ⊢
    by_cases h1 : ptxt.all isDigitC = true
    · simp only [h1, if_true] at h ⊢
      by_cases h2 : 1 ≤ digitsVal ptxt ∧ digitsVal ptxt ≤ 65535
      · refine ⟨some (digitsVal ptxt), by simp [h2.2], fun dflt => ?_⟩
        have : (digitsVal ptxt == 0) = false := by
          simp
          omega
        simp [h2, finalPort, this]
      · simp [h2] at h
    · simp [h1] at h

/-- result of `_hostinfo` on the text after the user-info, under the Spec's host grammar. -/
theorem hostinfoOf_spec {v6ok : Str → Bool} {hostport host : Str} {pv : PortV}
    (h : hostPort v6ok hostport = some (host, pv)) (hpv : pv ≠ .bad) :
    ∃ (htxt ptxt : Str),
      hostinfoOf hostport = (htxt, if ptxt.isEmpty then none else some ptxt) ∧
      htxt ≠ [] ∧ '%' ∉ htxt ∧ host = lower htxt ∧ pv = portOf ptxt ∧ bracketsOk v6ok hostport = true := by
  unfold hostPort at h
  split at h
  · -- bracketed: `hostport = '[' :: r`, and `r = lit ++ ']' :: after`
    next r =>
    dsimp only at h
    split at h
    · next after hd =>
      have hr := (List.takeWhile_append_dropWhile (p := (· != ']')) (l := r)).symm
      have hlit : ']' ∉ r.takeWhile (· != ']') := not_mem_of_all List.all_takeWhile (by decide)
      rw [hd] at hr
      generalize r.takeWhile (· != ']') = lit at h hr hlit
      subst hr
      split at h
      · next hok =>
        simp only [Bool.and_eq_true, bne_iff_ne, ne_eq] at hok
        have hres : some (lower lit, portOf (partition ':' after).2.2) = some (host, pv) := by
          split at h
          · exact h
          · rw [partition_cons_eq]
            exact h
          · cases h
        cases hres
        exact ⟨lit, _, hostinfoOf_bracket after hlit, hok.1.1, not_mem_of_all hok.1.2 (by decide), rfl,
          rfl, by rw [bracketsOk_bracket v6ok after hlit, hok.2]⟩
      · cases h
    · cases h
  · -- plain name: `partition ':'` finds what the Spec's `rpartition ':'` finds
    dsimp only at h
    obtain ⟨name, ptxt, hpart, hsub, hacc⟩ : ∃ name ptxt : Str,
        (':' ∉ name → (partition ':' hostport).1 = name ∧ (partition ':' hostport).2.2 = ptxt) ∧
        (∀ c ∈ hostport, c ∈ name ∨ c = ':' ∨ c ∈ ptxt) ∧
        (if name != [] && name.all regNameChar then some (lower name, portOf ptxt) else none) =
          some (host, pv) := by
      rcases rpartition_spec ':' hostport with ⟨a, b, rfl, _, hrp⟩ | ⟨hn, hrp⟩
      · rw [hrp] at h
        exact ⟨a, b, fun ha => partition_append b ha ▸ ⟨rfl, rfl⟩, by simp, h⟩
      · rw [hrp] at h
        exact ⟨hostport, [], fun _ => partition_notin hn ▸ ⟨rfl, rfl⟩, fun c hc => .inl hc, h⟩
    split at hacc
    · next hok =>
      simp only [Bool.and_eq_true, bne_iff_ne, ne_eq] at hok
      cases hacc
      obtain ⟨hcolon, hpct, hopen, hclose⟩ := regName_excludes hok.2
      obtain ⟨h1, h2⟩ := hpart hcolon
      have hdig := portOf_digits hpv
      have hob : '[' ∉ hostport := fun hm =>
        (hsub _ hm).elim hopen fun h => h.elim (by decide) (not_mem_of_all hdig (by decide))
      have hcb : ']' ∉ hostport := fun hm =>
        (hsub _ hm).elim hclose fun h => h.elim (by decide) (not_mem_of_all hdig (by decide))
      refine ⟨name, ptxt, ?_, hok.1, hpct, rfl, rfl, bracketsOk_plain v6ok hob hcb⟩
      rw [hostinfoOf_plain hob, h1, h2]
    · cases hacc

theorem parseHier_spec {v6ok : Str → Bool} {auth ui hostport host : Str} {hasAt : Bool} {pv : PortV}
    (hrp : rpartition '@' auth = (ui, hasAt, hostport)) (hui : hasAt = true → ui.all userinfoChar = true)
    (h : hostPort v6ok hostport = some (host, pv)) (hpv : pv ≠ .bad) (secure : Bool) (tail : Str) :
    parseHier v6ok secure auth tail =
      -- `generalizing := false`: else `h` and `hpv` are abstracted too, and the `match` is not `classifyHier`'s
      .ok ⟨host, match (generalizing := false) pv with | .value n => n | _ => if secure then 443 else 80,
        let bf := tail.takeWhile (· != '#')
        resource (bf.takeWhile (· != '?')) ((bf.dropWhile (· != '?')).drop 1), secure⟩ := by
  obtain ⟨htxt, ptxt, hinfo, hne, hpct, rfl, rfl, hbr⟩ := hostinfoOf_spec h hpv
  have hi : hostinfo auth = (htxt, if ptxt.isEmpty then none else some ptxt) := by
    rw [hostinfo, hrp, hinfo]
  have hb : bracketsOk v6ok auth = true := by
    rcases rpartition_spec '@' auth with ⟨a, b, rfl, _, hrp'⟩ | ⟨_, hrp'⟩
    · obtain ⟨rfl, rfl, rfl⟩ := hrp.symm.trans hrp'
      have h1 : '[' ∉ ui := not_mem_of_all (hui rfl) (by decide)
      have h2 : ']' ∉ ui := not_mem_of_all (hui rfl) (by decide)
      rw [show ui ++ '@' :: hostport = (ui ++ ['@']) ++ hostport by simp,
        bracketsOk_append_left v6ok hostport (by simp [h1]) (by simp [h2]), hbr]
    · obtain ⟨_, _, rfl⟩ := hrp.symm.trans hrp'
      exact hbr
  have hh : hostname auth = some (lower htxt) := by
    simp [hostname, hi, hne, partition_notin hpct]
  obtain ⟨p, hpo, hport⟩ := port_spec (congrArg Prod.snd hi) hpv
  obtain ⟨hws, hwss⟩ := defaults
  simp only [parseHier, hb, hh, hpo, hport, hws, hwss, if_true]

theorem parseHier_no_host {v6ok : Str → Bool} {auth ui hostport : Str} {hasAt : Bool}
    (hrp : rpartition '@' auth = (ui, hasAt, hostport))
    (h : (hostport.isEmpty || (hostport.head? == some ':' && (hostport.drop 1).all isDigitC)) = true)
    (secure : Bool) (tail : Str) : parseHier v6ok secure auth tail = .error .valueError := by
  have hh : hostname auth = none := by
    unfold hostname hostinfo
    rw [hrp]
    match hostport with
    | [] => rfl
    | c :: ds =>
      obtain ⟨rfl, hd⟩ : c = ':' ∧ ds.all isDigitC = true := by simpa using h
      have : '[' ∉ ds := not_mem_of_all hd (by decide)
      have : '[' ∉ (':' :: ds) := by simp [this]
      simp [hostinfoOf_plain this, partition_cons_eq]
  unfold parseHier
  rw [hh]
  split <;> rfl

/-- what a verdict of the Spec asks of the answer of `parse_url`. -/
def Meets : Verdict → Except Exn Target → Prop
  | .target t, r => r = .ok t
  | .refuse, r => r = .error .valueError
  | .unconstrained, r => ∀ e, r = .error e → e = .valueError

theorem Meets.error_is_valueError {v : Verdict} {r : Except Exn Target} (h : Meets v r) {e : Exn}
    (he : r = .error e) : e = .valueError := by
  subst he
  cases v with
  | target t => cases h
  | refuse =>
    cases h
    rfl
  | unconstrained => exact h e rfl

theorem hier_meets (v6ok : Str → Bool) (secure : Bool) (auth tail : Str) :
    Meets (classifyHier v6ok secure auth tail) (parseHier v6ok secure auth tail) := by
  unfold classifyHier
  rcases hrp : rpartition '@' auth with ⟨ui, hasAt, hostport⟩
  dsimp only
  -- `by_cases` + `rw` here: `split` on the whole classifier is several times dearer
  by_cases hnh : (hostport.isEmpty || (hostport.head? == some ':' && (hostport.drop 1).all isDigitC)) = true
  · rw [if_pos hnh]
    exact parseHier_no_host hrp hnh secure tail
  rw [if_neg hnh]
  by_cases hui : (hasAt && !ui.all userinfoChar) = true
  · rw [if_pos hui]
    exact fun _ => parseHier_error
  rw [if_neg hui]
  split
  · exact fun _ => parseHier_error  -- `hostPort` is `none`
  · exact fun _ => parseHier_error  -- the port is `.bad`
  next host pv hnb hhp =>
  split
  · exact parseHier_spec hrp (fun hat => by simpa [hat] using hui) hhp (fun e => hnb e) secure tail
  · exact fun _ => parseHier_error  -- path, query or fragment refused

theorem parseUrl_meets (v6ok : Str → Bool) (u : Str) :
    Meets (classify v6ok u) (parseUrl v6ok u) := by
  unfold classify isWs isWss
  cases hc : u.contains ':'
  · exact parseUrl_no_colon v6ok hc
  obtain ⟨scheme, rest, rfl, hs⟩ := List.eq_append_cons_of_mem (List.contains_iff_mem.mp hc)
  have hcut := partition_eq ':' (scheme ++ ':' :: rest)
  rw [partition_append rest hs] at hcut
  obtain ⟨h1, h2⟩ := Prod.mk.inj hcut
  rw [← h1, ← h2]
  simp only [Bool.not_true, Bool.false_eq_true, if_false]
  cases hws : scheme == "ws".toList || scheme == "wss".toList
  · -- another scheme: with "//" the model gets as far as its own scheme test
    show parseUrl v6ok _ = _
    by_cases hr : ∃ body, rest = '/' :: '/' :: body
    · obtain ⟨body, rfl⟩ := hr
      rw [parseUrl_slashes v6ok body hs, hws]
      rfl
    · exact parseUrl_no_slashes v6ok hs fun body hb => hr ⟨body, hb⟩
  · simp only [Bool.not_true, Bool.false_eq_true, if_false]
    split
    · next body =>
      rw [parseUrl_slashes v6ok body hs, hws]
      -- the Spec's `isDelim` and the model's: two definitions, one body
      exact hier_meets v6ok _ _ _
    · next hno => exact parseUrl_no_slashes v6ok hs hno

end WS.Lemmas.Url
