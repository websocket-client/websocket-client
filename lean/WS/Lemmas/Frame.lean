/-
  WS.Lemmas.Frame — `WS.Model.Frame` against `WS.Spec.Rfc6455`: masking, big-endian round trips, the two header bytes,
  the RFC decoder as equations and decode ∘ encode, `format` is the RFC encoder (`format_eq_encode`; its length:
  `encode_length` with `minimalForm_ite`), what `validate` accepts.
-/
import WS.Spec.Rfc6455
import WS.Model.Frame
namespace WS.Lemmas.Frame
open WS WS.Spec WS.Model

/-- after `i` bytes the rotating key of `_mask` reads `key[i mod 4], key[(i+1) mod 4], …`. -/
theorem maskCyc_eq_unmaskFrom (key p : Bytes) (i : Nat) :
    maskCyc [key.getD (i % 4) 0, key.getD ((i + 1) % 4) 0, key.getD ((i + 2) % 4) 0, key.getD ((i + 3) % 4) 0] p =
      unmaskFrom key i p := by
  induction p generalizing i with
  | nil => rfl
  | cons b p ih =>
    have h := ih (i + 1)
    rw [show (i + 1 + 3) % 4 = i % 4 by omega] at h
    exact congrArg (_ :: ·) h

/-- the code's masking is the RFC's `payload[i] XOR key[i mod 4]`. -/
theorem mask_eq_unmask (key p : Bytes) (hk : key.length = 4) : mask key p = unmask key p := by
  match key, hk with
  | [k0, k1, k2, k3], _ => exact maskCyc_eq_unmaskFrom [k0, k1, k2, k3] p 0

theorem unmask_length (key p : Bytes) : (unmask key p).length = p.length := by
  unfold unmask
  generalize 0 = i
  induction p generalizing i with
  | nil => rfl
  | cons b r ih => simp only [unmaskFrom, List.length_cons, ih]

theorem unmask_invol (key p : Bytes) : unmask key (unmask key p) = p := by
  unfold unmask
  generalize 0 = i
  induction p generalizing i with
  | nil => rfl
  | cons b r ih => simp only [unmaskFrom, unmaskAt, ih, UInt8.xor_assoc, UInt8.xor_self, UInt8.xor_zero]

theorem mask_length (key p : Bytes) (hk : key.length = 4) : (mask key p).length = p.length := by
  rw [mask_eq_unmask key p hk, unmask_length]

theorem mask_invol (key p : Bytes) (hk : key.length = 4) : mask key (mask key p) = p := by
  rw [mask_eq_unmask key p hk, mask_eq_unmask key _ hk, unmask_invol]

theorem beN_length (k n : Nat) : (beN k n).length = k := by
  induction k generalizing n with
  | zero => rfl
  | succ k ih => rw [beN, List.length_cons, ih]

theorem foldl_be (bs : Bytes) (acc : Nat) :
    bs.foldl (fun acc b => acc * 256 + b.toNat) acc = acc * 256 ^ bs.length + unbe bs := by
  induction bs generalizing acc with
  | nil => simp [unbe]
  | cons c cs ih =>
    rw [unbe, List.foldl_cons, List.foldl_cons, ih, ih (0 * 256 + c.toNat), List.length_cons, Nat.pow_succ]
    simp only [Nat.zero_mul, Nat.zero_add, Nat.add_mul, Nat.mul_assoc, Nat.add_assoc, Nat.mul_comm 256]

theorem unbe_cons (b : UInt8) (bs : Bytes) : unbe (b :: bs) = b.toNat * 256 ^ bs.length + unbe bs := by
  rw [unbe, List.foldl_cons, foldl_be, Nat.zero_mul, Nat.zero_add]

theorem unbe_lt (bs : Bytes) : unbe bs < 256 ^ bs.length := by
  induction bs with
  | nil => decide
  | cons b bs ih =>
    rw [unbe_cons, List.length_cons, Nat.pow_succ]
    have : (b.toNat + 1) * 256 ^ bs.length ≤ 256 * 256 ^ bs.length := Nat.mul_le_mul_right _ b.toNat_lt
    rw [Nat.add_mul] at this
    omega

theorem unbe_beN (k n : Nat) (h : n < 256 ^ k) : unbe (beN k n) = n := by
  induction k generalizing n with
  | zero => exact (Nat.lt_one_iff.1 h).symm
  | succ k ih =>
    have hp : 0 < 256 ^ k := Nat.pow_pos (by decide)
    rw [beN, unbe_cons, UInt8.toNat_ofNat_of_lt' (n := n / 256 ^ k) (Nat.div_lt_of_lt_mul h), ih _ (Nat.mod_lt _ hp),
      beN_length]
    exact Nat.div_add_mod' n (256 ^ k)

theorem beN_unbe (bs : Bytes) : beN bs.length (unbe bs) = bs := by
  induction bs with
  | nil => rfl
  | cons b bs ih =>
    have hp : 0 < 256 ^ bs.length := Nat.pow_pos (by decide)
    have hl := unbe_lt bs
    rw [List.length_cons, beN, unbe_cons, Nat.mul_comm, Nat.mul_add_div hp, Nat.mul_add_mod,
      Nat.div_eq_of_lt hl, Nat.mod_eq_of_lt hl, ih, Nat.add_zero, UInt8.ofNat_toNat]

theorem hdr0_fields {fin r1 r2 r3 op : Nat} (hf : fin < 2) (h1 : r1 < 2) (h2 : r2 < 2) (h3 : r3 < 2) (hop : op < 16)
    {b : UInt8} (hb : b = UInt8.ofNat (fin * 128 + r1 * 64 + r2 * 32 + r3 * 16 + op)) :
    b.toNat / 128 = fin ∧ b.toNat / 64 % 2 = r1 ∧ b.toNat / 32 % 2 = r2 ∧ b.toNat / 16 % 2 = r3 ∧ b.toNat % 16 = op := by
  rw [hb, UInt8.toNat_ofNat_of_lt' (by omega : _ < 256)]
  omega

theorem hdr1_fields {m n : Nat} (hm : m < 2) (hn : n < 128) {b : UInt8} (hb : b = UInt8.ofNat (m * 128 + n)) :
    b.toNat / 128 = m ∧ b.toNat % 128 = n := by
  rw [hb, UInt8.toNat_ofNat_of_lt' (by omega : _ < 256)]
  omega

theorem hdr0_shift : ∀ fin < 2, ∀ r1 < 2, ∀ r2 < 2, ∀ r3 < 2, ∀ op < 16,
    fin <<< 7 ||| r1 <<< 6 ||| r2 <<< 5 ||| r3 <<< 4 ||| op = fin * 128 + r1 * 64 + r2 * 32 + r3 * 16 + op := by
  decide

theorem hdr1_shift (m : Nat) {n : Nat} (hn : n < 128) : m <<< 7 ||| n = m * 128 + n := by
  rw [← Nat.shiftLeft_add_eq_or_of_lt hn, Nat.shiftLeft_eq]

theorem opcode_consts : Gen.opcodeCont = 0 ∧ Gen.opcodeText = 1 ∧ Gen.opcodeBinary = 2 ∧ Gen.opcodeClose = 8 ∧
    Gen.opcodePing = 9 ∧ Gen.opcodePong = 10 :=
  ⟨rfl, rfl, rfl, rfl, rfl, rfl⟩

theorem opcode_lt_16 : ∀ op ∈ Gen.opcodes, op < 16 := by decide

theorem bit01_of_lt {x : Nat} (h : x < 2) : bit01 x = true := by
  match x, h with
  | 0, _ => rfl
  | 1, _ => rfl

/-- the frame record the decoder builds from the first header byte. -/
def mkWire (b0 : UInt8) (masked : Bool) (key : Bytes) (form : Nat) (payload : Bytes) : WireFrame :=
  { fin := b0.toNat / 128, rsv1 := b0.toNat / 64 % 2, rsv2 := b0.toNat / 32 % 2,
    rsv3 := b0.toNat / 16 % 2, opcode := b0.toNat % 16, masked := masked, key := key,
    lenForm := form, payload := payload }

/-- the number of extension bytes the 7-bit length code announces (RFC 6455 §5.2). -/
def extLen (len7 : Nat) : Nat := if len7 = 126 then 2 else if len7 = 127 then 8 else 0
/-- the width in bits of the length field the code selects. -/
def lenForm (len7 : Nat) : Nat := if len7 = 126 then 16 else if len7 = 127 then 64 else 7
/-- the payload length: the code itself, or the big-endian value of the extension bytes. -/
def lenOf (len7 : Nat) (ext : Bytes) : Nat := if len7 = 126 ∨ len7 = 127 then unbe ext else len7

theorem decodeLen_eq (b0 : UInt8) (masked : Bool) (len7 : Nat) (rest : Bytes) :
    decodeLen b0 masked len7 rest =
      if rest.length < extLen len7 then .needMore
      else decodePayload b0 masked (lenForm len7) (lenOf len7 (rest.take (extLen len7))) (rest.drop (extLen len7)) := by
  unfold decodeLen extLen lenForm lenOf
  by_cases h6 : len7 = 126
  · simp [h6]
  · by_cases h7 : len7 = 127
    · simp [h7]
    · simp [h6, h7]

theorem decodePayload_eq (b0 : UInt8) (masked : Bool) (form len : Nat) (r : Bytes) {kn : Nat}
    (hk : (if masked then 4 else 0) = kn) :
    decodePayload b0 masked form len r =
      if r.length < kn + len then .needMore
      else .frame (mkWire b0 masked (r.take kn) form
              (if masked then unmask (r.take kn) ((r.drop kn).take len) else (r.drop kn).take len))
            ((r.drop kn).drop len) := by
  subst hk
  rfl

theorem decode_cons (b0 b1 : UInt8) (masked : Bool) (code : Nat) (ext key body rest : Bytes)
    (hm : (b1.toNat / 128 == 1) = masked) (hc : b1.toNat % 128 = code)
    (hext : ext.length = extLen code) (hkey : (if masked then 4 else 0) = key.length)
    (hbody : body.length = lenOf code ext) :
    decode (b0 :: b1 :: (ext ++ (key ++ (body ++ rest)))) =
      .frame (mkWire b0 masked key (lenForm code) (if masked then unmask key body else body)) rest := by
  subst hm hc
  rw [decode, decodeLen_eq, ← hext, if_neg (by simp), List.take_left' rfl, List.drop_left' rfl, ← hbody,
    decodePayload_eq _ _ _ _ _ hkey, if_neg (by simp), List.take_left' rfl, List.drop_left' rfl, List.take_left' rfl,
    List.drop_left' rfl]

theorem decode_frame {bs rest : Bytes} {w : WireFrame} (h : decode bs = .frame w rest) :
    ∃ b0 b1 r k, bs = b0 :: b1 :: r ∧ w.fin = b0.toNat / 128 ∧ rest = r.drop k := by
  match bs, h with
  | b0 :: b1 :: r, h =>
    generalize hk : (if b1.toNat / 128 == 1 then 4 else 0) = kn
    rw [decode, decodeLen_eq] at h
    split at h
    · cases h
    rw [decodePayload_eq _ _ _ _ _ hk] at h
    split at h
    · cases h
    injection h with hw hr
    exact ⟨b0, b1, r, _, rfl, hw ▸ rfl, by rw [← hr, List.drop_drop, List.drop_drop]⟩

/-- each permitted length form, as the 7-bit code and extension bytes the decoder will see (`g`: code ↦ second byte). -/
theorem exists_lenCode (form n : Nat)
    (hform : (form = 7 ∧ n < 126) ∨ (form = 16 ∧ n < 65536) ∨ (form = 64 ∧ n < 2 ^ 64)) :
    ∃ code ext, code < 128 ∧ ext.length = extLen code ∧ lenOf code ext = n ∧ lenForm code = form ∧
      ∀ (b0 : UInt8) (g : Nat → UInt8),
        (if form = 7 then [b0, g n] else if form = 16 then b0 :: g 126 :: beN 2 n else b0 :: g 127 :: beN 8 n) =
          b0 :: g code :: ext := by
  rcases hform with ⟨rfl, hn⟩ | ⟨rfl, hn⟩ | ⟨rfl, hn⟩
  · have h6 : n ≠ 126 := by omega
    have h7 : n ≠ 127 := by omega
    exact ⟨n, [], by omega, by simp [extLen, h6, h7], by simp [lenOf, h6, h7], by simp [lenForm, h6, h7], fun _ _ => rfl⟩
  · exact ⟨126, beN 2 n, by omega, beN_length 2 n, by simpa [lenOf] using unbe_beN 2 n hn, rfl, fun _ _ => rfl⟩
  · exact ⟨127, beN 8 n, by omega, beN_length 8 n, by simpa [lenOf] using unbe_beN 8 n hn, rfl, fun _ _ => rfl⟩

theorem decode_encode {fin rsv1 rsv2 rsv3 op : Nat} (key : Option Bytes) {form : Nat} (p rest : Bytes)
    (hf : fin < 2) (h1 : rsv1 < 2) (h2 : rsv2 < 2) (h3 : rsv3 < 2) (hop : op < 16)
    (hk : ∀ k, key = some k → k.length = 4)
    (hform : (form = 7 ∧ p.length < 126) ∨ (form = 16 ∧ p.length < 65536) ∨ (form = 64 ∧ p.length < 2 ^ 64)) :
    decode (encode fin rsv1 rsv2 rsv3 op key form p ++ rest) =
      .frame { fin := fin, rsv1 := rsv1, rsv2 := rsv2, rsv3 := rsv3, opcode := op,
               masked := key.isSome, key := key.getD [], lenForm := form, payload := p } rest := by
  obtain ⟨code, ext, hcode, hext, hlen, hfm, hhdr⟩ := exists_lenCode form p.length hform
  obtain ⟨f0, f1, f2, f3, f4⟩ := hdr0_fields hf h1 h2 h3 hop rfl
  unfold encode
  dsimp only
  rw [hhdr _ fun x => UInt8.ofNat (_ + x)]
  cases key with
  | none =>
    -- the second byte `UInt8.ofNat ((if none.isSome then 128 else 0) + code)` computes to `UInt8.ofNat (0 * 128 + code)`
    obtain ⟨g0, g1⟩ := hdr1_fields (m := 0) (by decide) hcode rfl
    simp only [List.cons_append, List.append_assoc]
    refine (decode_cons _ _ false code ext [] p rest (congrArg (· == 1) g0) g1 hext rfl hlen.symm).trans ?_
    rw [mkWire, f0, f1, f2, f3, f4, hfm]
    rfl
  | some k =>
    obtain ⟨g0, g1⟩ := hdr1_fields (m := 1) (by decide) hcode rfl
    simp only [List.cons_append, List.append_assoc]
    refine (decode_cons _ _ true code ext k (unmask k p) rest (congrArg (· == 1) g0) g1 hext (hk k rfl).symm
      (by rw [unmask_length, hlen])).trans ?_
    rw [mkWire, f0, f1, f2, f3, f4, hfm, unmask_invol]
    rfl

theorem minimalForm_ok (n : Nat) (h : n < 2 ^ 64) :
    (minimalForm n = 7 ∧ n < 126) ∨ (minimalForm n = 16 ∧ n < 65536) ∨ (minimalForm n = 64 ∧ n < 2 ^ 64) := by
  unfold minimalForm
  by_cases a : n ≤ 125
  · exact Or.inl ⟨if_pos a, by omega⟩
  · by_cases b : n ≤ 65535
    · exact Or.inr (Or.inl ⟨by rw [if_neg a, if_pos b], by omega⟩)
    · exact Or.inr (Or.inr ⟨by rw [if_neg a, if_neg b], h⟩)

theorem minimalForm_ite {α : Type} (n : Nat) (x y z : α) :
    (if minimalForm n = 7 then x else if minimalForm n = 16 then y else z) =
      if n ≤ 125 then x else if n ≤ 65535 then y else z := by
  unfold minimalForm
  split
  · rfl
  · split <;> rfl

/-- `ABNF.format` is the RFC encoder, in the minimal length form, masked with `key` iff the MASK field is set. -/
theorem format_eq_encode (f : Frame) (key : Bytes) (hfin : f.fin < 2) (h1 : f.rsv1 < 2) (h2 : f.rsv2 < 2) (h3 : f.rsv3 < 2)
    (hop : f.opcode ∈ Gen.opcodes) (hm : f.mask < 2) (hlen : f.data.length < 2 ^ 63) (hk : key.length = 4) :
    format f key = .ok (encode f.fin f.rsv1 f.rsv2 f.rsv3 f.opcode (if f.mask = 0 then none else some key)
      (minimalForm f.data.length) f.data) := by
  obtain ⟨code, ext, hcode, -, -, -, hhdr⟩ := exists_lenCode _ _ (minimalForm_ok f.data.length (by omega))
  have hcont : Gen.opcodes.contains f.opcode = true := by simpa using hop
  have h63 : ¬ f.data.length ≥ Gen.length63 := Nat.not_le.2 hlen
  have h7 : f.data.length < Gen.length7 ↔ f.data.length ≤ 125 := Nat.lt_succ_iff
  have h16 : f.data.length < Gen.length16 ↔ f.data.length ≤ 65535 := Nat.lt_succ_iff
  -- both headers are `b0 :: b1 :: ext` for the same length code: the shifts are compared once, at that code
  simp only [format, bit01_of_lt hfin, bit01_of_lt h1, bit01_of_lt h2, bit01_of_lt h3, bit01_of_lt hm, hcont, h63, h7, h16,
    hdr0_shift _ hfin _ h1 _ h2 _ h3 _ (opcode_lt_16 _ hop), Bool.and_self, Bool.not_true, Bool.false_eq_true, if_false,
    ← minimalForm_ite, hhdr _ fun x => UInt8.ofNat (f.mask <<< 7 ||| x), hdr1_shift _ hcode]
  unfold encode
  dsimp only
  rw [hhdr _ fun x => UInt8.ofNat (_ + x)]
  match hmk : f.mask, hm with
  | 0, _ => simp
  | 1, _ => simp [mask_eq_unmask key _ hk]

/-- what `format` can return: one of its two exceptions, or a non-empty frame. -/
def FormatOut (r : Except Exn Bytes) : Prop :=
  r = .error .valueError ∨ r = .error (.internal "UnicodeEncodeError") ∨ ∃ b w, r = .ok (b :: w)

theorem format_cases (f : Frame) (key : Bytes) : FormatOut (format f key) := by
  -- a frame that formats is `hdr ++ _`, and `hdr` starts with `b0` in each of its three length forms
  have ok {c₁ c₂ : Prop} [Decidable c₁] [Decidable c₂] (b0 : UInt8) (x y z tl : Bytes) :
      FormatOut (.ok ((if c₁ then b0 :: x else if c₂ then b0 :: y else b0 :: z) ++ tl)) := by
    refine .inr (.inr ?_)
    split
    · exact ⟨_, _, rfl⟩
    · split <;> exact ⟨_, _, rfl⟩
  unfold format
  exact iteInduction (fun _ => .inl rfl) fun _ =>      -- FIN/RSV not bits
    iteInduction (fun _ => .inl rfl) fun _ =>          -- opcode not in the table
    iteInduction (fun _ => .inl rfl) fun _ =>          -- 2^63 bytes or more
    iteInduction (fun _ => .inr (.inl rfl)) fun _ =>   -- MASK not a bit
    iteInduction (fun _ => ok ..) fun _ => ok ..       -- unmasked, masked

theorem format_createFrame_ok (p : Bytes) (op : Nat) (key : Bytes) (hop : op ∈ Gen.opcodes) (hlen : p.length < 2 ^ 63) :
    ∃ w, format (createFrame p op) key = .ok w := by
  have hcont : Gen.opcodes.contains op = true := by simpa using hop
  have c63 : Gen.length63 = 2 ^ 63 := by decide
  have hn : ¬ (2 ^ 63 ≤ p.length) := by omega
  simp only [format, createFrame, hcont, bit01, c63]
  simp [hn]

theorem encode_length (fin rsv1 rsv2 rsv3 op : Nat) (key : Option Bytes) (form : Nat) (p : Bytes) :
    (encode fin rsv1 rsv2 rsv3 op key form p).length =
      (if form = 7 then 2 else if form = 16 then 4 else 10) + (key.getD []).length + p.length := by
  unfold encode
  by_cases h7 : form = 7
  · cases key <;> simp [h7, unmask_length] <;> omega
  · by_cases h16 : form = 16
    · cases key <;> simp [h16, unmask_length, beN_length] <;> omega
    · cases key <;> simp [h7, h16, unmask_length, beN_length] <;> omega

theorem proto_ite {c : Prop} [Decidable c] {a b : Option Exn} (ha : a = if a.isNone then none else some .proto)
    (hb : b = if b.isNone then none else some .proto) :
    (if c then a else b) = if (if c then a else b).isNone then none else some .proto := by
  split
  · exact ha
  · exact hb

/-- `validate` raises the protocol exception or nothing: one `proto_ite` per `if`, the inner four the CLOSE body. -/
theorem validate_eq (f : Frame) (skip : Bool) :
    validate f skip = if (validate f skip).isNone then none else some .proto :=
  proto_ite rfl (proto_ite rfl (proto_ite rfl (proto_ite
    (proto_ite rfl (proto_ite rfl (proto_ite rfl (proto_ite rfl rfl)))) rfl)))

theorem validate_proto {f : Frame} {skip : Bool} {e : Exn} (h : validate f skip = some e) : e = .proto := by
  rw [validate_eq] at h
  split at h
  · cases h
  · exact (Option.some.inj h).symm

/-- the close-body test of `validate`, as a function. -/
def closeBodyOk (skip : Bool) (d : Bytes) : Bool :=
  d.length == 0 ||
    (!(d.length == Gen.closeBodyBadEq || decide (d.length ≥ Gen.closeBodyBadGe)) &&
     (!(decide (d.length > 2) && !skip && !validateUtf8 (d.drop 2)) &&
      isValidCloseStatus (256 * (d.getD 0 0).toNat + (d.getD 1 0).toNat)))

theorem closeBodyOk_mono (d : Bytes) (h : closeBodyOk false d = true) : closeBodyOk true d = true := by
  unfold closeBodyOk at h ⊢
  -- with `skip` set the UTF-8 conjunct is `true`; the other tests are the same on both sides
  simp only [Bool.not_true, Bool.and_false, Bool.false_and, Bool.not_false, Bool.true_and, Bool.and_true, Bool.or_eq_true,
    Bool.and_eq_true] at h ⊢
  exact h.imp_right fun ⟨hlen, _, hcode⟩ => ⟨hlen, hcode⟩

theorem validate_isNone (f : Frame) (skip : Bool) :
    (validate f skip).isNone =
      (!(f.rsv1 != 0 || f.rsv2 != 0 || f.rsv3 != 0) && (Gen.opcodes.contains f.opcode &&
       (!((f.opcode == Gen.opcodeClose || f.opcode == Gen.opcodePing || f.opcode == Gen.opcodePong) &&
          (f.fin == 0 || decide (f.data.length ≥ Gen.length7))) &&
       (!(f.opcode == Gen.opcodeClose) || closeBodyOk skip f.data)))) := by
  simp only [validate, closeBodyOk, apply_ite Option.isNone, Option.isNone_some, Option.isNone_none, Bool.if_false_left,
    Bool.if_true_left, Bool.if_true_right, Bool.decide_eq_true, Bool.not_not, Bool.or_false]

end WS.Lemmas.Frame
