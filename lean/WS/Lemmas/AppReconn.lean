/-
  WS.Lemmas.AppReconn — reconnection, the pieces (built-in dispatcher loop, quiet plan, keepalive off): what `handleDisconnect`
  and a failing `setSock` leave when a reconnect interval is set, and the closed forms of failed attempts (`retryTrace`, which
  `C15_retry` is stated with; `firstFail` … `beforeSuccess` are the states such a run passes through).
-/
import WS.Lemmas.AppRun
namespace WS.Lemmas.App
open WS WS.Model.App

theorem disconnect_reconnect (c : Cfg) (hq : Quiet c) (hr : c.reconnect ≠ 0) (s : St) (e : AExn) (rc : Bool)
    (kr : s.keepRunning = true) (pg : s.ping = none) (hki : e ≠ .ki) :
    handleDisconnect c s e rc =
      ({ s with hasErrored := true, lastPing := 0, lastPong := 0,
                calls := if rc then s.calls else cbCalls c s.calls .onError,
                trace := s.trace ++ (if rc then [] else cbTrace c s.calls s.now .onError [.exn e]) }, .ok ()) := by
  rw [handleDisconnect_quiet c hq s e rc kr pg, afterReport, if_neg hki, if_pos hr]

theorem setSock_fail (c : Cfg) (hq : Quiet c) (hr : c.reconnect ≠ 0) (s : St) (rc : Bool) (d : Dial) (ds : List Dial)
    (hs : NoOpen s) (hp : s.ping = none) (hd : s.dials = d :: ds)
    (hf : isFail d = true) (hk : s.keepRunning = true) :
    setSock c s rc =
      ({ s with hasErrored := true, lastPing := 0, lastPong := 0,
                sock := some { idx := s.nextIdx, connected := false, isOpen := false, dead := false },
                dials := ds, nextIdx := s.nextIdx + 1,
                calls := if rc then s.calls else cbCalls c s.calls .onError,
                trace := s.trace ++ [(s.now, .dial s.nextIdx), (s.now, .sockClosed s.nextIdx)] ++
                  (if rc then [] else cbTrace c s.calls s.now .onError [.exn (dialExn d)]) }, .ok ()) := by
  rw [setSock, connect_release s rc hs, connect_failed s d ds hd hf]
  exact disconnect_reconnect c hq hr _ _ rc hk hp (by cases d <;> simp [dialExn])

/-- the reconnect interval slept -/
def sleepStep (r : Nat) (s : St) : St :=
  { s with now := s.now + r, trace := s.trace ++ [(s.now, .sleep r)] }

/-- the state after the first attempt failed -/
def firstFail (c : Cfg) (s : St) (d : Dial) (ds : List Dial) : St :=
  { s with hasErrored := true, lastPing := 0, lastPong := 0,
           sock := some { idx := s.nextIdx, connected := false, isOpen := false, dead := false },
           dials := ds, nextIdx := s.nextIdx + 1, calls := cbCalls c s.calls .onError,
           trace := s.trace ++ [(s.now, .dial s.nextIdx), (s.now, .sockClosed s.nextIdx)] ++
             cbTrace c s.calls s.now .onError [.exn (dialExn d)] }

/-- the state after a later failed attempt -/
def failStep (r : Nat) (s : St) : St :=
  { s with now := s.now + r, hasErrored := true, lastPing := 0, lastPong := 0,
           sock := some { idx := s.nextIdx, connected := false, isOpen := false, dead := false },
           dials := s.dials.tail, nextIdx := s.nextIdx + 1,
           trace := s.trace ++ [(s.now, .sleep r), (s.now + r, .dial s.nextIdx), (s.now + r, .sockClosed s.nextIdx)] }

/-- the state after a list of later failed attempts -/
def afterFails (r : Nat) (s : St) (fails : List Dial) : St := fails.foldl (fun s _ => failStep r s) s

theorem afterFails_now (r : Nat) : ∀ (fails : List Dial) (s : St), (afterFails r s fails).now = s.now + fails.length * r := by
  intro fails
  induction fails with
  | nil =>
    intro s
    simp [afterFails]
  | cons d ds ih =>
    intro s
    simp only [afterFails, List.foldl_cons, List.length_cons] at ih ⊢
    rw [ih]
    simp only [failStep]
    rw [Nat.add_mul]
    omega

/-- the state in which the successful attempt is made, after `d :: ds` failed -/
def beforeSuccess (c : Cfg) (s0 : St) (d : Dial) (ds : List Dial) : St :=
  sleepStep c.reconnect (afterFails c.reconnect (firstFail c (prologue s0) d (ds ++ [])) ds)

/-- retries after the first failed attempt at tick `t`: sleep r, then the next attempt exactly r later -/
def retryTrace (r : Nat) : Nat → Nat → Nat → Trace
  | _, _, 0 => []
  | t, i, n + 1 => [(t, .sleep r), (t + r, .dial i), (t + r, .sockClosed i)] ++ retryTrace r (t + r) (i + 1) n

end WS.Lemmas.App
