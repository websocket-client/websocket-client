/-
  WS.Lemmas.AppRun — `setSock` on a dial that is established, from the dial to the terminating event of the connection
  (quiet plan, keepalive off); with reconnect off that is a whole `run_forever`: `run_trace`.
-/
import WS.Lemmas.AppSpec
namespace WS.Lemmas.App
open WS WS.Model.App
open WS.Spec.AppTrace (cbOnly expectedConn expectedDeliveries)

theorem selectTimeout_pos (c : Cfg) (h : argsAccepted c.iv c.to = true) : 0 < selectTimeout c := by
  unfold selectTimeout
  cases hto : c.to with
  | none => decide
  | some t =>
    simp only [argsAccepted, hto, Bool.and_eq_true, Bool.not_eq_true', decide_eq_false_iff_not] at h
    by_cases h0 : t = 0
    · simp [h0]
      decide
    · simp only [h0, ↓reduceIte]
      omega

/-- `sT`: the traffic processed, the clock at `te`'s arrival -/
theorem setSock_conn (c : Cfg) (hq : Quiet c) (hT : 0 < selectTimeout c) (hiv : c.iv = 0) (s : St) (rc : Bool)
    (legal : List TEv) (te : TEv) (ds : List Dial)
    (hd : s.dials = .established (legal ++ [te]) :: ds)
    (hs : NoOpen s)
    (kr : s.keepRunning = true) (pg : s.ping = none) (lp : s.lastPing = 0)
    (hleg : ∀ e ∈ legal, isLegal e.ev = true)
    (hfuel : need0 (selectTimeout c) (legal ++ [te]) + 1 ≤ c.fuel)
    (hz : endTime s.now (legal ++ [te]) ≤ c.horizon) :
    let sT : St := { runLegal c (enterR c s rc (legal ++ [te]) ds) legal with now := endTime s.now (legal ++ [te]) }
    ∃ m, setSock c s rc = afterLoop c rc (afterRead c (dispLoop c m) (readEvents c [te] sT)) ∧ Up sT ∧
      sT.sock = some { idx := s.nextIdx, connected := true, isOpen := true, dead := false } ∧ sT.arr + te.dt ≤ sT.now := by
  have hu : Up (enterR c s rc (legal ++ [te]) ds) := ⟨kr, ⟨_, rfl, rfl, rfl, rfl⟩, pg, lp⟩
  obtain ⟨m, hl, hat⟩ := dispLoop_conn c hq hT te legal _ c.fuel hu rfl hleg rfl hz hfuel
  obtain ⟨_, hX, -⟩ := conn_state c s rc legal [te] ds hleg
  exact ⟨m, by rw [setSock_est c hq hiv s rc (legal ++ [te]) ds hd hs, hl]; rfl, by rw [hX]; exact ⟨kr, hu.sk, pg, lp⟩,
    by rw [hX], hat⟩

theorem firstStage_once (c : Cfg) (s : St) (hrc : c.reconnect = 0) : firstStage c s = setSock c s false := by
  unfold firstStage
  split <;> simp [*]

/-- `tr`: the trace up to the terminating event (C13_trace, C14_terminates, C14_close_args* are projections of this theorem) -/
theorem run_trace (c : Cfg) (hq : Quiet c) (hacc : argsAccepted c.iv c.to = true) (hiv : c.iv = 0)
    (hrc : c.reconnect = 0) (s0 : St) (legal : List TEv) (te : TEv)
    (hs : s0.sock = none) (hp : s0.ping = none) (hl : s0.lastPing = 0)
    (hd : s0.dials = [.established (legal ++ [te])])
    (hleg : ∀ e ∈ legal, isLegal e.ev = true) (hterm : isTerm te.ev = true)
    (hfuel : need0 (selectTimeout c) (legal ++ [te]) + 1 ≤ c.fuel)
    (hz : endTime s0.now (legal ++ [te]) ≤ c.horizon)
    (hzc : te.ev = .protoError ∨ te.ev = .payloadError →
      endTime s0.now (legal ++ [te]) + secs Gen.closeTimeoutDefault ≤ c.horizon) :
    (runForeverO c s0).2 = .returned (isLoss te.ev) ∧
    ∃ tr, (runForever c s0).trace = tr ++
        endTrace c (specCalls c.has c.plan (cbCalls c s0.calls .onOpen) (expectedDeliveries c.has s0.now legal))
          (endTime s0.now (legal ++ [te])) s0.nextIdx te.ev ∧
      cbOnly tr = cbOnly s0.trace ++ expectedConn c.has c.plan s0.calls s0.now .onOpen (legal ++ [te]) := by
  obtain ⟨m, hset, hu, hsk, har⟩ := setSock_conn c hq (selectTimeout_pos c hacc) hiv (prologue s0) false legal te [] hd
    (.inl hs) rfl hp hl hleg hfuel hz
  obtain ⟨tr, hX, hcb, -⟩ := conn_state c (prologue s0) false legal [te] [] hleg
  rw [runForever, runForeverO_eq c s0 hacc hs, runBody, firstStage_once c _ hrc, hset]
  obtain ⟨ho, htr⟩ := end_run c hq hrc _ _ te { idx := s0.nextIdx, connected := true, isOpen := true, dead := false }
    ⟨hu.kr, hsk, rfl, rfl, rfl, hu.pg, by rw [hX]; rfl, by rw [hX]; rfl, by rw [hX], har⟩ hterm hzc
  exact ⟨ho, tr, htr.trans (by rw [hX]; rfl), by rw [expectedConn_eq c _ _ _ legal te hleg hterm]; exact hcb⟩

end WS.Lemmas.App
