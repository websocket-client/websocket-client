/-
  WS.Lemmas.Walk — the `recv_data_frame` loop walked once, on top of `RecvStrict.FrameClosed`: whatever is closed under
  `recv_frame`'s steps, the reassembly bookkeeping and the frames the loop writes holds of the whole loop.
  Instances: the link state machine (`Lemmas/Link`), exact consumption (`Props/C03e`).
-/
import WS.Lemmas.RecvStrict

namespace WS.Lemmas.Walk
open WS WS.Model WS.Lemmas.RecvStrict

theorem contAdd_eq (c : Conn) (f : Frame) :
    c.contAdd f = { c with contData := (c.contAdd f).contData, recving := (c.contAdd f).recving } := by
  unfold Conn.contAdd
  -- 2 × 3 branches, each sets these two fields only
  split <;> split <;> (try split) <;> rfl

theorem contValidate_proto (c : Conn) (f : Frame) (e : Exn) : c.contValidate f = some e → e = .proto := by
  unfold Conn.contValidate
  have p : some Exn.proto = some e → e = .proto := fun h => (Option.some.inj h).symm
  exact iteInduction (motive := fun r => r = some e → e = .proto) (fun _ => p) fun _ =>
    iteInduction (motive := fun r => r = some e → e = .proto) (fun _ => p) fun _ => nofun

/-! One turn of the `recv_data_frame` loop, by what `recv_frame` returned (the only place the loop is unfolded). -/

theorem loop_error {c c1 : Conn} {e : Exn} (h : c.recvFrame = (.error e, c1)) (fuel : Nat) (cf : Bool) :
    Conn.recvDataFrameLoop (fuel + 1) c cf = (.error e, c1) := by
  rw [Conn.recvDataFrameLoop, h]

theorem loop_data {c c1 : Conn} {f : Frame} (h : c.recvFrame = (.ok f, c1))
    (hop : f.opcode = 0 ∨ f.opcode = 1 ∨ f.opcode = 2) (fuel : Nat) (cf : Bool) :
    Conn.recvDataFrameLoop (fuel + 1) c cf =
      match c1.contValidate f with
      | some e => (.error e, c1)
      | none =>
        if f.fin != 0 || (c1.contAdd f).fireCont then (c1.contAdd f).contExtract f
        else Conn.recvDataFrameLoop fuel (c1.contAdd f) cf := by
  have hd : (f.opcode == Gen.opcodeText || f.opcode == Gen.opcodeBinary || f.opcode == Gen.opcodeCont) = true := by
    rcases hop with h | h | h <;> rw [h] <;> rfl
  rw [Conn.recvDataFrameLoop, h]
  simp only [hd, if_true]
  rfl

/-- the reply to the peer's close frame is made at most once per connection (`if self.connected: self.send_close()`);
    the status passes the range test of `send_close`, so what is left of it is the write. -/
theorem loop_close {c c1 : Conn} {f : Frame} (h : c.recvFrame = (.ok f, c1)) (hop : f.opcode = 8)
    (fuel : Nat) (cf : Bool) :
    Conn.recvDataFrameLoop (fuel + 1) c cf =
      if !c1.connected then (.ok (f.opcode, f), c1)
      else match ({ c1 with ownCloses := c1.ownCloses + 1, connected := false } : Conn).sendFrame
          (createFrame (beN 2 Gen.statusNormal ++ []) Gen.opcodeClose) with
        | (.error e, c2) => (.error e, c2)
        | (.ok _, c2) => (.ok (f.opcode, f), c2) := by
  rw [Conn.recvDataFrameLoop, h]
  simp only [hop]
  rfl

theorem loop_ping {c c1 : Conn} {f : Frame} (h : c.recvFrame = (.ok f, c1)) (hop : f.opcode = 9)
    (fuel : Nat) (cf : Bool) :
    Conn.recvDataFrameLoop (fuel + 1) c cf =
      if f.data.length < 126 then
        match c1.sendFrame (createFrame f.data Gen.opcodePong) with
        | (.error e, c2) => (.error e, c2)
        | (.ok _, c2) => if cf then (.ok (f.opcode, f), c2) else Conn.recvDataFrameLoop fuel c2 cf
      else (.error .proto, c1) := by
  rw [Conn.recvDataFrameLoop, h]
  simp only [hop]
  rfl

/-- the remaining branches: a pong, and the fall-through for opcodes that `validate` has already refused. -/
theorem loop_other {c c1 : Conn} {f : Frame} (h : c.recvFrame = (.ok f, c1))
    (hd : ¬ (f.opcode = 0 ∨ f.opcode = 1 ∨ f.opcode = 2)) (h8 : f.opcode ≠ 8) (h9 : f.opcode ≠ 9) (fuel : Nat) (cf : Bool) :
    Conn.recvDataFrameLoop (fuel + 1) c cf =
      if f.opcode == Gen.opcodePong && cf then (.ok (f.opcode, f), c1) else Conn.recvDataFrameLoop fuel c1 cf := by
  have hd' : (f.opcode == Gen.opcodeText || f.opcode == Gen.opcodeBinary || f.opcode == Gen.opcodeCont) = false := by
    show (f.opcode == 1 || f.opcode == 2 || f.opcode == 0) = false
    simp only [Bool.or_eq_false_iff, beq_eq_false_iff_ne]
    omega
  have h8' : (f.opcode == Gen.opcodeClose) = false := beq_false_of_ne h8
  have h9' : (f.opcode == Gen.opcodePing) = false := beq_false_of_ne h9
  rw [Conn.recvDataFrameLoop, h]
  simp only [hd', h8', h9', Bool.false_eq_true, if_false]
  -- `if a then (if b then x else y) else y` against `if a && b then x else y`
  cases f.opcode == Gen.opcodePong <;> cases cf <;> rfl

/-- closed under what the `recv_data_frame` loop adds to `recv_frame`: updates of the reassembly fields, the frames it
    writes (pong, close reply), the bookkeeping of the close reply (made only while `connected`). -/
structure LoopClosed (T : Conn → Option Exn → Conn → Prop) : Prop extends FrameClosed T where
  cont : ∀ c cd rc, T c none { c with contData := cd, recving := rc }
  send : ∀ c f, T c (raised (c.sendFrame f).1) (c.sendFrame f).2
  reply : ∀ c, c.connected = true → T c none { c with ownCloses := c.ownCloses + 1, connected := false }

namespace LoopClosed
variable {T : Conn → Option Exn → Conn → Prop}

theorem contExtract (w : LoopClosed T) (c : Conn) (f : Frame) : T c (raised (c.contExtract f).1) (c.contExtract f).2 := by
  unfold Conn.contExtract
  split
  · exact w.fail c _ nofun
  · dsimp only   -- the `let`s
    split
    · exact w.seq (w.cont c none c.recving) (w.fail _ _ nofun)
    · exact w.cont c none c.recving

theorem recvDataFrameLoop (w : LoopClosed T) (fuel : Nat) (cf : Bool) : ∀ c : Conn,
    T c (raised (Conn.recvDataFrameLoop fuel c cf).1) (Conn.recvDataFrameLoop fuel c cf).2 := by
  induction fuel with
  | zero => exact fun c => w.fail c _ nofun
  | succ n ih =>
    intro c
    have s1 := w.recvFrame c
    generalize hrf : c.recvFrame = r1 at s1
    obtain ⟨e | f, c1⟩ := r1
    · rw [loop_error hrf]
      exact s1
    refine w.seq s1 ?_
    by_cases hd : f.opcode = 0 ∨ f.opcode = 1 ∨ f.opcode = 2
    · rw [loop_data hrf hd]
      split
      · rename_i e hv
        exact w.fail c1 e (contValidate_proto c1 f e hv ▸ nofun)
      · have hA : T c1 none (c1.contAdd f) := by
          rw [contAdd_eq]
          exact w.cont c1 _ _
        split
        · exact w.seq hA (w.contExtract _ f)
        · exact w.seq hA (ih _)
    by_cases h8 : f.opcode = 8
    · rw [loop_close hrf h8]
      split
      · exact w.ok c1
      · rename_i hc
        have hq := w.send { c1 with ownCloses := c1.ownCloses + 1, connected := false }
          (createFrame (beN 2 Gen.statusNormal ++ []) Gen.opcodeClose)
        generalize Conn.sendFrame _ _ = r at hq
        -- the same run whether the write raises or not
        obtain ⟨e | v, c2⟩ := r <;> exact w.seq (w.reply c1 (by simpa using hc)) hq
    by_cases h9 : f.opcode = 9
    · rw [loop_ping hrf h9]
      split
      · have hq := w.send c1 (createFrame f.data Gen.opcodePong)
        generalize c1.sendFrame (createFrame f.data Gen.opcodePong) = r at hq
        obtain ⟨e | v, c2⟩ := r
        · exact hq
        · dsimp only
          split
          · exact hq
          · exact w.seq hq (ih _)
      · exact w.fail c1 _ nofun
    rw [loop_other hrf hd h8 h9]
    split
    · exact w.ok c1
    · exact ih _

end LoopClosed

end WS.Lemmas.Walk
