/-
  WS.Lemmas.Proxy — helper lemmas for C19 beyond WS.Lemmas.NoProxy: the guards of
  `_is_no_proxy_host`, the environment look-ups, the CONNECT head read back by the Spec's
  parser, and `connect()` in closed form.
-/
import WS.Lemmas.Py
import WS.Lemmas.NoProxy
import WS.Lemmas.B64
import WS.Lemmas.Crlf
import WS.Spec.NoProxy
import WS.Model.Proxy
namespace WS.Lemmas.Proxy
open WS WS.Py WS.Lemmas.Py WS.Lemmas.NoProxy WS.Lemmas.Crlf
open WS.Model.NoProxy

theorem gen_mask_bound : Gen.subnetMaskStrict = false ∧ Gen.subnetMaskBound = 32 := by decide

theorem octet_le {s : Str} {v : Nat} (h : octet s = some v) : v ≤ 255 := by
  unfold octet at h
  split at h
  · split at h
    · next hle =>
      cases h
      simp at hle
      exact hle.1
    · cases h
  · cases h

theorem inetAton_lt {s : Str} {n : Nat} (h : inetAton s = some n) : n < 2 ^ 32 := by
  unfold inetAton at h
  split at h
  · split at h
    · next ha hb hc hd =>
      cases h
      have := octet_le ha
      have := octet_le hb
      have := octet_le hc
      have := octet_le hd
      omega
    · cases h
  · cases h

theorem cidr_mask (a p ip : Nat) (hip : ip < 2 ^ 32) :
    (ip &&& ((0xFFFFFFFF <<< (32 - p)) &&& 0xFFFFFFFF) == a) = Spec.NoProxy.blockContains a p ip := by
  rw [and_mask ip (32 - p) hip]
  unfold Spec.NoProxy.blockContains
  rw [Bool.eq_iff_iff]
  simp only [beq_iff_eq, Bool.and_eq_true]
  exact div_mul_eq_iff ip a (2 ^ (32 - p)) (Nat.pow_pos (by decide))

/-- `_is_subnet_address` and `_is_address_in_network` read an entry exactly as the Spec's `cidr?`
    does, so under the guard the network test cannot fail. -/
theorem network_spec {host : Str} {ip : Nat} (hip : inetAton host = some ip) (e : Str) :
    isSubnetAddress e = (Spec.NoProxy.cidr? e).isSome ∧ ∀ a p, Spec.NoProxy.cidr? e = some (a, p) →
      isAddressInNetwork host e = .ok (Spec.NoProxy.blockContains a p ip) := by
  obtain ⟨hstrict, hbound⟩ := gen_mask_bound
  unfold Spec.NoProxy.cidr? isSubnetAddress isAddressInNetwork isIpAddress maskInRange
  rw [hip, hstrict, hbound]
  generalize splitOn '/' e = l
  rcases l with _ | ⟨a, _ | ⟨p, _ | ⟨q, r⟩⟩⟩
  · simp
  · simp
  · dsimp only
    cases inetAton a with
    | none => simp
    | some net =>
      cases pyInt p with
      | none => simp
      | some n =>
        by_cases hn : n ≤ 32
        · simp [hn, cidr_mask net n ip (inetAton_lt hip)]
        · simp [hn]
  · simp

theorem ip_clause {host : Str} {ip : Nat} (hip : inetAton host = some ip) (list : List Str) :
    (list.filter isSubnetAddress).mapM (isAddressInNetwork host) =
      .ok ((list.filter isSubnetAddress).map fun e =>
        match Spec.NoProxy.cidr? e with
        | some (a, p) => Spec.NoProxy.blockContains a p ip
        | none => false) := by
  refine mapM_ok _ fun e he => ?_
  obtain ⟨hs, hn⟩ := network_spec hip e
  obtain ⟨⟨a, p⟩, hc⟩ := Option.isSome_iff_exists.mp (hs ▸ (List.mem_filter.mp he).2)
  rw [hc, hn a p hc]

/-- the repaired suffix test (`host == x or host.endswith("." + x)`) is the label-boundary test. -/
theorem belongs_eq (host x : Str) :
    (host == x || ('.' :: x).isSuffixOf host) = Spec.NoProxy.belongs host x := by
  unfold Spec.NoProxy.belongs Spec.NoProxy.labels
  rw [isSuffixOf_splitOn_eq]

theorem domainName?_eq (e : Str) :
    Spec.NoProxy.domainName? e = if ['.'].isPrefixOf e then some (lstripChar '.' e) else none := by
  cases e with
  | nil => rfl
  | cons c cs =>
    by_cases hc : c = '.'
    · subst hc
      rfl
    · simp [Spec.NoProxy.domainName?, hc, Ne.symm hc]

/-- `os.environ.get(lo, os.environ.get(up, ""))` -/
theorem envGetD_eq_envEither (env : Env) (lo up : String) :
    envGetD env lo (envGetD env up []) = Spec.NoProxy.envEither env lo up := by
  unfold envGetD Spec.NoProxy.envEither Spec.NoProxy.envGet
  cases env.lookup lo <;> rfl

open WS.Model.Proxy

theorem stripPrefix_append (p x : Str) : Spec.NoProxy.stripPrefix? p (p ++ x) = some x := by
  simp [Spec.NoProxy.stripPrefix?]

/-- the fixed words of the CONNECT head: where the request line has its blanks, and that none
    holds a CR. -/
theorem connect_words :
    ("CONNECT ".toList = "CONNECT".toList ++ [' '] ∧ " HTTP/1.1".toList = ' ' :: "HTTP/1.1".toList) ∧
    (' ' ∉ "CONNECT".toList ∧ '\r' ∉ "CONNECT".toList) ∧
    (' ' ∉ "HTTP/1.1".toList ∧ '\r' ∉ "HTTP/1.1".toList) ∧
    '\r' ∉ "Host: ".toList ∧ '\r' ∉ "Proxy-Authorization: Basic ".toList := by
  -- literals as character lists first: see `lit`
  repeat rw [String.toList_ofList]
  decide +kernel

/-- the lines of the head a `ConnectReq` stands for, as `crlfLines` returns them (an empty
    line ends the head, and the text after its CRLF is empty). -/
def connectLines (r : Spec.NoProxy.ConnectReq) : List Str :=
  ("CONNECT ".toList ++ r.target ++ " HTTP/1.1".toList) :: ("Host: ".toList ++ r.hostHdr) ::
    match r.basic with
    | some b => ["Proxy-Authorization: Basic ".toList ++ b, [], []]
    | none => [[], []]

theorem parseConnect_lines (r : Spec.NoProxy.ConnectReq) (ht : ∀ c ∈ r.target, c ≠ ' ' ∧ c ≠ '\r')
    (hh : '\r' ∉ r.hostHdr) (hb : ∀ b, r.basic = some b → '\r' ∉ b) :
    Spec.NoProxy.parseConnect (joinStr crlf (connectLines r)) = some r := by
  obtain ⟨t, hhdr, basic⟩ := r
  obtain ⟨⟨hverb, hvers⟩, ⟨hverb_sp, hverb_cr⟩, ⟨hvers_sp, hvers_cr⟩, hhost_cr, hauth_cr⟩ := connect_words
  have ht_sp : ' ' ∉ t := fun h => (ht _ h).1 rfl
  have ht_cr : '\r' ∉ t := fun h => (ht _ h).2 rfl
  unfold Spec.NoProxy.parseConnect connectLines
  rw [hverb, hvers]
  -- from here on the fixed words are variables: as literals they are decoded again at every step
  generalize "CONNECT".toList = m at *
  generalize "HTTP/1.1".toList = v at *
  generalize "Host: ".toList = H at *
  generalize "Proxy-Authorization: Basic ".toList = P at *
  have hsp : splitOn ' ' (m ++ [' '] ++ t ++ ' ' :: v) = [m, t, v] := by
    rw [List.append_assoc, List.append_assoc, List.singleton_append, splitOn_append_sep, splitOn_append_sep,
      splitOn_notin ' ' t ht_sp, splitOn_notin ' ' m hverb_sp, splitOn_notin ' ' v hvers_sp]
    rfl
  rw [crlf, crlfLines_joinStr (List.cons_ne_nil _ _)]
  -- the two discriminants first: reducing the `match` on the lines while they are still calls is dear
  · simp only [hsp, stripPrefix_append, and_self, if_true]
    cases basic <;> simp only [stripPrefix_append, and_self, if_true]
  · cases basic <;> simp [hverb_cr, hvers_cr, hhost_cr, hauth_cr, ht_cr, hh, hb]

theorem tunnelRequest_eq (host : Str) (port : Nat) (auth : Option (Str × Str)) :
    tunnelRequest host port auth = joinStr crlf (connectLines ⟨host ++ ':' :: natStr port,
      host ++ ':' :: natStr port, (authStr? auth).map fun s => B64.encode (B64.asciiBytes s)⟩) := by
  unfold tunnelRequest connectLines
  cases authStr? auth <;> simp only [Option.map, joinStr, List.append_assoc, List.nil_append, List.append_nil]

/-- `connect()` once URL, proxy choice, resolver and dial have succeeded: what is resolved, whether a
    CONNECT request is written and its answer awaited, then TLS for wss. -/
theorem connect_ok_eq {v6ok : Str → Bool} {url : Str} {timeout : Nat} {sockopt : List String}
    {p : ProxyInfo} {env : Env} {w : World} {t : Net.Target} {c : Choice} {o : Net.Outcome}
    {outs : List Net.Outcome} {i : Nat} {evs : List Net.Ev} {rh : Str} {rp : Nat} {nt : Bool}
    (hp : Model.Url.parseUrl v6ok url = .ok t) (hc : getProxyInfo v6ok t.host t.secure p env = .ok c)
    (ha : w.addrs = some (o :: outs))
    (hd : Model.OpenSocket.openSocket timeout sockopt (o :: outs) = (.ok i, evs))
    (hat : addrTarget t.host t.port c = (rh, rp, nt)) :
    connect v6ok url timeout sockopt p env w =
      let tr := CEv.resolve rh rp :: evs.map .sock ++
        if nt then [.send i (tunnelRequest t.host t.port c.auth)] else []
      match (if nt then tunnel w.proxyReply else .ok ()) with
      | .error e => (.error e, tr ++ [.sock (.close i)])
      | .ok () => (.ok (i, t), tr ++ if t.secure then [.tls i t.host] else []) := by
  unfold connect
  simp only [hp, hc, ha, hd, hat]
  cases nt
  · cases t.secure <;> simp
  · simp only [if_true]
    cases tunnel w.proxyReply with
    | error e => simp
    | ok u => cases t.secure <;> simp

theorem addrTarget_via {c : Choice} {ph : Str} (hph : c.host = some ph) (hne : ph ≠ []) (host : Str)
    (port : Nat) : ∃ pp, addrTarget host port c = (ph, pp, true) := by
  simp [addrTarget, hph, hne]

end WS.Lemmas.Proxy
