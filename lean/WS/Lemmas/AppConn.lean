/-
  WS.Lemmas.AppConn — one established connection under a quiet plan with the keepalive off:
  the select loop (`Dispatcher.read` / `SSLDispatcher.read`) delivers every legal event at its arrival
  time and comes to the read of the event after them (`dispLoop_conn`).  Idle `select` time-outs only use up fuel.
-/
import WS.Lemmas.AppBasic
import WS.Lemmas.AppAtt
namespace WS.Lemmas.App
open WS WS.Model.App

structure Up (s : St) : Prop where
  kr : s.keepRunning = true
  sk : ∃ w, s.sock = some w ∧ w.isOpen = true ∧ w.dead = false ∧ w.connected = true
  pg : s.ping = none
  lp : s.lastPing = 0

theorem writable_up {s : St} (h : Up s) : s.writable = true := by
  obtain ⟨w, hs, ho, hd, _⟩ := h.sk
  simp [St.writable, hs, ho, hd]

theorem arrived_at {s : St} {e : TEv} {rest : List TEv} (h : s.evs = e :: rest) (t : Nat) :
    ({ s with now := t } : St).arrived = decide (s.arr + e.dt ≤ t) := by
  simp only [St.arrived, St.nextAt, h]

theorem readable_eq_arrived (c : Cfg) (s : St) : (s.rawReadable c || s.pendingTls c) = s.arrived := by
  simp only [St.rawReadable, St.pendingTls]
  cases c.ssl <;> cases s.arrived <;> simp

theorem select_arrived (c : Cfg) (s : St) (h : s.arrived = true) : select c s = (s, some true) := by
  have hr := readable_eq_arrived c s
  unfold select
  cases h1 : s.rawReadable c
  · rw [h1, h, Bool.false_or] at hr
    simp only [hr, Bool.and_true, Bool.false_eq_true, ↓reduceIte]
    have : c.ssl = true := by
      simp only [St.pendingTls, Bool.and_eq_true] at hr
      exact hr.1.1
    rw [this]
    rfl
  · simp

theorem select_noPing (c : Cfg) (s : St) (e : TEv) (rest : List TEv) (pg : s.ping = none) (h : s.evs = e :: rest)
    (hz : s.arr + e.dt ≤ c.horizon) :
    select c s =
      if s.arr + e.dt ≤ s.now + selectTimeout c then ({ s with now := max s.now (s.arr + e.dt) }, some true)
      else ({ s with now := s.now + selectTimeout c }, some false) := by
  by_cases ha : s.arr + e.dt ≤ s.now
  · rw [select_arrived c s ((arrived_at h s.now).trans (decide_eq_true ha)), if_pos (Nat.le_trans ha (Nat.le_add_right ..)),
      Nat.max_eq_left ha]
  · have hr := (readable_eq_arrived c s).trans ((arrived_at h s.now).trans (decide_eq_false ha))
    rw [Bool.or_eq_false_iff] at hr
    have hn : s.nextAt = some (s.arr + e.dt) := by rw [St.nextAt, h]
    simp only [select, hr.1, hr.2, Bool.and_false, Bool.false_eq_true, ↓reduceIte, hn]
    rw [waitUntil_none c s _ pg (by split <;> omega)]
    simp only [Bool.not_true, Bool.false_eq_true, ↓reduceIte, readable_eq_arrived, arrived_at h]
    split
    · rw [Nat.max_eq_left (Nat.le_of_not_le ha), decide_eq_true (Nat.le_max_right ..)]
    · rw [Nat.max_eq_right (Nat.le_add_right ..), decide_eq_false ‹_›]

theorem dispLoop_step (c : Cfg) (n : Nat) (s : St) (e : TEv) (rest : List TEv) (hu : Up s) (h : s.evs = e :: rest)
    (hz : s.arr + e.dt ≤ c.horizon) :
    dispLoop c (n + 1) s =
      if s.arr + e.dt ≤ s.now + selectTimeout c then
        afterRead c (dispLoop c n) (readEvents c (e :: rest) { s with now := max s.now (s.arr + e.dt) })
      else dispLoop c n { s with now := s.now + selectTimeout c } := by
  obtain ⟨w, hs, _⟩ := hu.sk
  rw [dispLoop, select_noPing c s e rest hu.pg h hz]
  simp only [hu.kr, hs, Option.isNone_some, Bool.not_true, Bool.and_false, Bool.false_eq_true, ↓reduceIte]
  by_cases hsoon : s.arr + e.dt ≤ s.now + selectTimeout c
  · simp only [hsoon, ↓reduceIte, Model.App.read, Bool.not_true, Bool.false_eq_true, h]
  · simp only [hsoon, ↓reduceIte, Bool.false_eq_true, afterRead]
    -- no ping was sent, so `check()` finds nothing (`by exact` leaves the state for `rw` to find)
    rw [checkFails_zero c _ (by exact hu.lp)]
    rfl

/-- `m`: the fuel left when the head event is read; every idle time-out before that uses one iteration -/
theorem dispLoop_wait (c : Cfg) (hT : 0 < selectTimeout c) (e : TEv) (rest : List TEv) :
    ∀ (n : Nat) (s : St), Up s → s.evs = e :: rest → s.arr + e.dt ≤ c.horizon →
      (s.arr + e.dt - s.now) / selectTimeout c < n →
      ∃ m, n ≤ m + (s.arr + e.dt - s.now) / selectTimeout c + 1 ∧ dispLoop c n s =
        afterRead c (dispLoop c m) (readEvents c (e :: rest) { s with now := max s.now (s.arr + e.dt) }) := by
  intro n
  induction n with
  | zero =>
    intro s _ _ _ hn
    cases hn
  | succ k ih =>
    intro s hu hev hz hn
    rw [dispLoop_step c k s e rest hu hev hz]
    split
    · exact ⟨k, Nat.succ_le_succ (Nat.le_add_right ..), rfl⟩
    · next hlate =>
      -- a time-out passes: one fewer fits into what is left of the gap
      have hdiv := Nat.div_eq_sub_div hT (Nat.le_sub_of_add_le' (Nat.le_of_not_le hlate))
      rw [Nat.sub_sub] at hdiv
      rw [hdiv] at hn ⊢
      obtain ⟨m, hm, heq⟩ := ih { s with now := s.now + selectTimeout c } ⟨hu.kr, hu.sk, hu.pg, hu.lp⟩ hev hz
        (Nat.lt_of_succ_lt_succ hn)
      rw [heq]
      simp only [Nat.max_eq_right (Nat.le_of_not_le hlate),
        Nat.max_eq_right (Nat.le_trans (Nat.le_add_right ..) (Nat.le_of_not_le hlate))]
      exact ⟨m, Nat.succ_le_succ hm, rfl⟩

def isTerm : SrvEv → Bool
  | .close _ | .eof | .reset | .protoError | .payloadError => true
  | _ => false

/-- state after the loop has processed the legal event `e` (at `max now (arr + dt)`) -/
def applyLegal (c : Cfg) (s : St) (e : TEv) : St :=
  let at_ := s.arr + e.dt
  let t := max s.now at_
  let s := { s with now := t, evs := s.evs.tail, arr := at_ }
  match e.ev with
  | .message op p _ =>
    let a1 := [dataArg op p, .int op, .bool true]
    let a2 := [dataArg op p]
    { s with calls := cbCalls c (cbCalls c s.calls .onData) .onMessage,
             trace := s.trace ++ cbTrace c s.calls t .onData a1 ++ cbTrace c (cbCalls c s.calls .onData) t .onMessage a2 }
  | .ping p =>
    { s with calls := cbCalls c s.calls .onPing,
             trace := s.trace ++ [(t, .wrote Gen.opcodePong p)] ++ cbTrace c s.calls t .onPing [.bytes p] }
  | .pong p =>
    -- (no ping is outstanding when keepalive is off: `last_ping_tm = 0`, the pong is not timed)
    { s with calls := cbCalls c s.calls .onPong,
             trace := s.trace ++ cbTrace c s.calls t .onPong [.bytes p] }
  | _ => s

theorem applyLegal_frame (c : Cfg) (s : St) (e : TEv) :
    ∃ calls tr, applyLegal c s e =
      { s with now := max s.now (s.arr + e.dt), evs := s.evs.tail, arr := s.arr + e.dt, calls := calls, trace := tr } := by
  unfold applyLegal
  cases e.ev <;> exact ⟨_, _, rfl⟩

@[simp] theorem applyLegal_evs (c : Cfg) (s : St) (e : TEv) : (applyLegal c s e).evs = s.evs.tail := by
  obtain ⟨_, _, h⟩ := applyLegal_frame c s e
  rw [h]
@[simp] theorem applyLegal_arr (c : Cfg) (s : St) (e : TEv) : (applyLegal c s e).arr = s.arr + e.dt := by
  obtain ⟨_, _, h⟩ := applyLegal_frame c s e
  rw [h]
@[simp] theorem applyLegal_now (c : Cfg) (s : St) (e : TEv) : (applyLegal c s e).now = max s.now (s.arr + e.dt) := by
  obtain ⟨_, _, h⟩ := applyLegal_frame c s e
  rw [h]

theorem applyLegal_up (c : Cfg) (s : St) (e : TEv) (h : Up s) : Up (applyLegal c s e) := by
  obtain ⟨_, _, hf⟩ := applyLegal_frame c s e
  rw [hf]
  exact ⟨h.kr, h.sk, h.pg, h.lp⟩

theorem readEvents_arrived (c : Cfg) (e : TEv) (rest : List TEv) (s : St) (hp : e.ev ≠ .part)
    (ha : s.arr + e.dt ≤ s.now) :
    readEvents c (e :: rest) s = handleEv c { s with evs := rest, arr := s.arr + e.dt } e.ev := by
  rw [readEvents]
  simp only [ha, ↓reduceIte, Bool.not_true, Bool.false_eq_true]

theorem readEvents_legal (c : Cfg) (hq : Quiet c) (s : St) (e : TEv) (rest : List TEv) (hu : Up s)
    (h : s.evs = e :: rest) (hleg : isLegal e.ev = true) :
    readEvents c (e :: rest) { s with now := max s.now (s.arr + e.dt) } = (applyLegal c s e, .ok true) := by
  rw [readEvents_arrived c e rest _ (fun hp => by rw [hp] at hleg; cases hleg) (Nat.le_max_right ..)]
  simp only [applyLegal, h, List.tail_cons]
  cases hev : e.ev with
  | message op p frag =>
    simp only [handleEv, deliverMessage, gen_msgOpcode, gen_dataFirst, ↓reduceIte, callback_quiet c hq, asRead,
      List.append_assoc]
  | ping p =>
    have hw : ({ s with now := max s.now (s.arr + e.dt), evs := rest, arr := s.arr + e.dt } : St).writable = true :=
      writable_up ⟨hu.kr, hu.sk, hu.pg, hu.lp⟩
    simp only [handleEv, hw, ↓reduceIte, callback_quiet c hq, asRead, St.emit, List.append_assoc]
  | pong p =>
    simp only [handleEv, pongStamp, hu.lp, Nat.not_lt_zero, decide_false, Bool.not_false, Bool.and_true, gen_pongStamp, ↓reduceIte,
      callback_quiet c hq, asRead]
  | _ =>
    rw [hev] at hleg
    cases hleg

/-- loop iterations needed for a list of events: per event the idle time-outs that fit into its gap, and the one that reads it
    (`0`: no lag, the clock stands at the previous arrival) -/
def need0 (T : Nat) : List TEv → Nat
  | [] => 0
  | e :: r => e.dt / T + 1 + need0 T r

/-- the state after the legal events `l` have been processed -/
def runLegal (c : Cfg) (s : St) (l : List TEv) : St := l.foldl (applyLegal c) s

theorem endTime_ge (arr : Nat) (l : List TEv) : arr ≤ endTime arr l := by
  induction l generalizing arr with
  | nil => exact Nat.le_refl _
  | cons e r ih => exact Nat.le_trans (Nat.le_add_right ..) (ih _)

/-- `m`: the fuel left when the terminating event is read -/
theorem dispLoop_conn (c : Cfg) (hq : Quiet c) (hT : 0 < selectTimeout c) (te : TEv) :
    ∀ (legal : List TEv) (s : St) (n : Nat), Up s → s.evs = legal ++ [te] → (∀ e ∈ legal, isLegal e.ev = true) →
      s.now = s.arr → endTime s.arr (legal ++ [te]) ≤ c.horizon → need0 (selectTimeout c) (legal ++ [te]) < n →
      ∃ m, dispLoop c n s = afterRead c (dispLoop c m)
          (readEvents c [te] { runLegal c s legal with now := endTime s.arr (legal ++ [te]) }) ∧
        (runLegal c s legal).arr + te.dt ≤ endTime s.arr (legal ++ [te]) := by
  intro legal
  induction legal with
  | nil =>
    intro s n hu hev _ hnow hz hn
    obtain ⟨m, -, heq⟩ := dispLoop_wait c hT te [] n s hu hev hz
      (by rw [hnow, Nat.add_sub_cancel_left]; exact Nat.lt_of_le_of_lt (Nat.le_add_right ..) hn)
    rw [hnow, Nat.max_eq_right (Nat.le_add_right ..)] at heq
    exact ⟨m, heq, Nat.le_refl _⟩
  | cons e l ih =>
    intro s n hu hev hleg hnow hz hn
    obtain ⟨hl, hleg'⟩ := List.forall_mem_cons.1 hleg
    simp only [List.cons_append, need0] at hn
    obtain ⟨m, hm, heq⟩ := dispLoop_wait c hT e (l ++ [te]) n s hu hev (Nat.le_trans (endTime_ge ..) hz)
      (by rw [hnow, Nat.add_sub_cancel_left]; omega)
    rw [hnow, Nat.add_sub_cancel_left] at hm
    rw [heq, readEvents_legal c hq s e (l ++ [te]) hu hev hl]
    simp only [afterRead, checkFails_zero c _ (applyLegal_up c s e hu).lp, Bool.false_eq_true, ↓reduceIte]
    have := ih (applyLegal c s e) m (applyLegal_up c s e hu) (by rw [applyLegal_evs, hev]; rfl) hleg'
      (by rw [applyLegal_now, applyLegal_arr, hnow, Nat.max_eq_right (Nat.le_add_right ..)])
      (by rw [applyLegal_arr]; exact hz) (by omega)
    rw [applyLegal_arr] at this
    exact this

/-- the state holds no open transport: no `WebSocket` object, or one whose transport is released -/
abbrev NoOpen (s : St) : Prop := s.sock = none ∨ ∃ w, s.sock = some w ∧ w.isOpen = false

theorem connect_release (s : St) (rc : Bool) (hs : NoOpen s) :
    connect (release s rc) = connect s := by
  cases rc with
  | false => rfl
  | true =>
    rcases hs with hs | ⟨w, hs, hw⟩
    · simp [release, hs]
    · -- `connect` overwrites `sock` without reading it
      simp only [release, hs, closeTransport, hw, Bool.false_eq_true, ↓reduceIte, connect]
      split <;> rfl

/-- state in which the dispatcher loop is entered after a successful dial (`R`: for either value `rc` of `reconnecting`) -/
def enterR (c : Cfg) (s : St) (rc : Bool) (evs : List TEv) (ds : List Dial) : St :=
  { s with dials := ds, nextIdx := s.nextIdx + 1,
           sock := some { idx := s.nextIdx, connected := true, isOpen := true, dead := false },
           evs := evs, arr := s.now,
           calls := cbCalls c s.calls (openCb c rc),
           trace := s.trace ++ [(s.now, .dial s.nextIdx)] ++ cbTrace c s.calls s.now (openCb c rc) [] }

theorem setSock_est (c : Cfg) (hq : Quiet c) (hiv : c.iv = 0) (s : St) (rc : Bool) (evs : List TEv) (ds : List Dial)
    (hd : s.dials = .established evs :: ds)
    (hs : NoOpen s) :
    setSock c s rc = afterLoop c rc (dispLoop c c.fuel (enterR c s rc evs ds)) := by
  rw [setSock, connect_release s rc hs]
  simp only [afterConnect, connect, hd, St.emit, hiv, ne_eq, not_true_eq_false, ↓reduceIte]
  rw [callback_quiet c hq]
  simp only [afterOpen, enterR, List.append_assoc]

end WS.Lemmas.App
