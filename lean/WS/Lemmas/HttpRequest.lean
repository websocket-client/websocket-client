/-
  WS.Lemmas.HttpRequest — helper lemmas for C10: the Spec grammar reads back what
  `"\r\n".join(lines)` wrote.
-/
import WS.Spec.HttpRequest
import WS.Lemmas.Base64
import WS.Lemmas.Crlf
import WS.Lemmas.Py
import WS.Model.Handshake
namespace WS.Lemmas.HttpRequest
open WS WS.PyH2 WS.H2 WS.Spec.Http WS.Model.Handshake

/-- `lit t`: `t` once the goal's string literals (those in `isTchar` too) are character lists (`String.toList_ofList`);
    left alone, `rfl` and `decide` evaluate `"…".toList` through the UTF-8 encoding, many times slower to check. -/
macro "lit " t:tactic : tactic =>
  `(tactic| ((try unfold isToken); (try unfold isTchar); (repeat rw [String.toList_ofList]); $t))

theorem breakAt_append {sep : Char} {a : Str} (b : Str) (h : sep ∉ a) :
    breakAt sep (a ++ sep :: b) = some (a, b) := by
  induction a with
  | nil => simp [breakAt]
  | cons c cs ih =>
    rw [List.mem_cons, not_or] at h
    simp [breakAt, Ne.symm h.1, ih h.2]

theorem splitN_one {sep : Char} {a : Str} (b : Str) (h : sep ∉ a) :
    splitN sep 1 (a ++ sep :: b) = [a, b] := by
  induction a with
  | nil => simp [splitN]
  | cons c cs ih =>
    rw [List.mem_cons, not_or] at h
    simp [splitN, Ne.symm h.1, ih h.2]

theorem noCRLF_append (a b : Str) : noCRLF (a ++ b) = (noCRLF a && noCRLF b) :=
  List.all_append

theorem noCR_of_noCRLF {s : Str} (h : noCRLF s = true) : '\r' ∉ s := Lemmas.Py.not_mem_of_all h (by decide)

theorem noCRLF_of_all {p : Char → Bool} {s : Str} (h : s.all p = true) (h1 : p '\r' = false) (h2 : p '\n' = false) :
    noCRLF s = true :=
  List.all_eq_true.mpr fun c hc => by
    simp only [Bool.and_eq_true, bne_iff_ne]
    exact ⟨fun e => Lemmas.Py.not_mem_of_all h h1 (e ▸ hc), fun e => Lemmas.Py.not_mem_of_all h h2 (e ▸ hc)⟩

theorem parseHeaderLine_render {name v : Str} (hn : isToken name = true) (hv : noCRLF v = true) :
    parseHeaderLine (name ++ ": ".toList ++ v) = some (name, trimOWS v) := by
  have hb : breakAt ':' (name ++ ':' :: ' ' :: v) = some (name, ' ' :: v) :=
    breakAt_append _ (Lemmas.Py.not_mem_of_all (Bool.and_eq_true_iff.mp hn).2 (by lit decide))
  have hv' : noCRLF (' ' :: v) = true := hv
  have ht : trimOWS (' ' :: v) = trimOWS v := rfl
  rw [String.toList_ofList, List.append_assoc]
  simp only [List.cons_append, List.nil_append, parseHeaderLine, hb, hn, hv', and_self, if_true, ht]

theorem parseHeaderLines_append {a b : List Str} {x y : List (Str × Str)}
    (ha : parseHeaderLines a = some x) (hb : parseHeaderLines b = some y) :
    parseHeaderLines (a ++ b) = some (x ++ y) := by
  induction a generalizing x with
  | nil =>
    cases ha
    exact hb
  | cons l ls ih =>
    simp only [parseHeaderLines] at ha
    split at ha
    · next h1 h2 =>
      cases ha
      simp only [List.cons_append, parseHeaderLines, h1, ih h2]
    · cases ha

theorem parseRequestLine_render {t : Str} (h : isTarget t = true) :
    parseRequestLine ("GET ".toList ++ t ++ " HTTP/1.1".toList) = some t := by
  have hb := breakAt_append (sep := ' ') "HTTP/1.1".toList
    (Lemmas.Py.not_mem_of_all (Bool.and_eq_true_iff.mp h).2 (by decide))
  unfold parseRequestLine
  rw [String.toList_ofList] at hb
  repeat rw [String.toList_ofList]
  simp only [List.cons_append, List.nil_append, List.isPrefixOf, beq_self_eq_true, Bool.true_and, if_true,
    List.drop_succ_cons, List.drop_zero, hb, h, and_self]

-- `PyH2.natRepr n` and `Py.natStr n` are definitionally equal (`ToString Nat` is `Nat.repr`)
theorem noCRLF_natRepr (n : Nat) : noCRLF (natRepr n) = true :=
  noCRLF_of_all (p := Char.isDigit) (List.all_eq_true.mpr (Lemmas.Py.natStr_digits n)) (by decide) (by decide)

theorem encode_chars (bs : Bytes) : (Base64.encode bs).all (fun c => !isPySpace c) = true := by
  have table : ∀ n, n < 64 → isPySpace (Base64.b64Char n) = false := by decide
  refine List.all_eq_true.mpr fun c hc => ?_
  rcases Lemmas.Base64.mem_encode bs c hc with rfl | ⟨n, hn, rfl⟩
  · rfl
  · rw [table n hn]
    rfl

theorem noCRLF_encode (bs : Bytes) : noCRLF (Base64.encode bs) = true :=
  noCRLF_of_all (encode_chars bs) (by decide) (by decide)

theorem stripBy_id {p : Char → Bool} {s : Str} (h : ∀ c ∈ s, p c = false) : stripBy p s = s := by
  have h1 : ∀ t : Str, (∀ c ∈ t, p c = false) → t.dropWhile p = t := by
    intro t ht
    cases t with
    | nil => rfl
    | cons c cs => simp [List.dropWhile, ht c (by simp)]
  unfold stripBy rstripBy
  rw [h1 s h, h1 s.reverse (by simpa using h), List.reverse_reverse]

theorem createKey_eq (rand : Bytes) : createKey rand = Base64.encode rand := by
  unfold createKey strip
  exact stripBy_id fun c hc => by simpa using List.all_eq_true.mp (encode_chars rand) c hc

theorem noCRLF_join {sep : Str} {parts : List Str} (hs : noCRLF sep = true)
    (hp : ∀ x ∈ parts, noCRLF x = true) : noCRLF (join sep parts) = true := by
  fun_induction join sep parts with
  | case1 => rfl
  | case2 x => exact hp x List.mem_cons_self
  | case3 x y rest ih =>
    rw [noCRLF_append, noCRLF_append, hp x List.mem_cons_self, hs, ih fun z hz => hp z (List.mem_cons_of_mem _ hz)]
    rfl

theorem noCRLF_hostPort {u : UrlParts} (hh : noCRLF u.host = true) : noCRLF (hostPort u) = true := by
  have hn := noCRLF_natRepr u.port
  unfold noCRLF at *
  unfold hostPort bracketed
  -- default port or not, host with a colon (bracketed) or not
  split <;> split <;> simp [hh, hn]

theorem noCRLF_getD {o : Option Str} {d : Str} (ho : ∀ x, o = some x → noCRLF x = true)
    (hd : noCRLF d = true) : noCRLF ((nonEmpty o).getD d) = true := by
  unfold nonEmpty
  split
  · split
    · exact hd
    · exact ho _ rfl
  · exact hd

/-- custom header entries that make sense: list entries are header lines, dict keys are tokens and
    do not override the key / version the library generates. -/
def cleanHeader : HeaderOpt → Prop
  | .absent => True
  | .list l => ∀ line ∈ l, noCRLF line = true ∧ (parseHeaderLine line).isSome = true
  | .dict d => ∀ kv ∈ d, isToken kv.1 = true ∧ (∀ v, kv.2 = some v → noCRLF v = true)
      ∧ kv.1 ≠ "Sec-WebSocket-Key".toList ∧ kv.1 ≠ "Sec-WebSocket-Version".toList

/-- "no CR/LF in any component" (DESIGN §6 C10). -/
structure Clean (u : UrlParts) (o : Opts) (jar : Str) : Prop where
  resource : isTarget u.resource = true
  host : noCRLF u.host = true
  optHost : ∀ h, o.host = some h → noCRLF h = true
  origin : ∀ x, o.origin = some x → noCRLF x = true
  connection : ∀ x, o.connection = some x → noCRLF x = true
  subs : ∀ s ∈ o.subprotocols, noCRLF s = true
  cookie : ∀ x, o.cookie = some x → noCRLF x = true
  jar : noCRLF jar = true
  header : cleanHeader o.header

/-- the lines parse to the (normalised) fields and contain no CR. -/
def SegOK (lines : List Str) (raw : List (Str × Str)) : Prop :=
  parseHeaderLines lines = some (raw.map norm) ∧ ∀ l ∈ lines, '\r' ∉ l

theorem SegOK.nil : SegOK [] [] := ⟨rfl, fun _ h => nomatch h⟩

theorem SegOK.append {a b : List Str} {x y : List (Str × Str)} (h1 : SegOK a x) (h2 : SegOK b y) :
    SegOK (a ++ b) (x ++ y) :=
  ⟨by
    rw [List.map_append]
    exact parseHeaderLines_append h1.1 h2.1,
   fun l hl => (List.mem_append.mp hl).elim (h1.2 l) (h2.2 l)⟩

theorem SegOK.line {l n v : Str} (hl : l = n ++ ": ".toList ++ v) (hn : isToken n = true) (hv : noCRLF v = true) :
    SegOK [l] [(n, v)] := by
  subst hl
  refine ⟨?_, fun l hl => ?_⟩
  · simp only [parseHeaderLines, parseHeaderLine_render hn hv, List.map, norm]
  · cases List.mem_singleton.mp hl
    simp only [List.mem_append, not_or]
    exact ⟨⟨Lemmas.Py.not_mem_of_all (Bool.and_eq_true_iff.mp hn).2 (by lit decide), by lit decide⟩,
      noCR_of_noCRLF hv⟩

theorem SegOK.single (pre n v : Str) (hpre : pre = n ++ ": ".toList) (hn : isToken n = true)
    (hv : noCRLF v = true) : SegOK [pre ++ v] [(n, v)] :=
  SegOK.line (hpre ▸ rfl) hn hv

theorem seg_custom {opt : HeaderOpt} (c : cleanHeader opt) : SegOK (customLines opt) (customHeaders opt) := by
  cases opt with
  | absent => exact SegOK.nil
  | list l =>
    induction l with
    | nil => exact SegOK.nil
    | cons x xs ih =>
      obtain ⟨hx1, hx2⟩ := c x List.mem_cons_self
      refine SegOK.append (a := [x]) (x := [(breakAt ':' x).getD (x, [])])
        ⟨?_, fun _ h => List.mem_singleton.mp h ▸ noCR_of_noCRLF hx1⟩
        (ih fun y hy => c y (List.mem_cons_of_mem _ hy))
      unfold parseHeaderLine at hx2
      simp only [parseHeaderLines, parseHeaderLine]
      split at hx2
      · next n v hb =>
        split at hx2
        · next hc => simp only [hb, if_pos hc, Option.getD_some, norm, List.map]
        · cases hx2
      · cases hx2
  | dict d =>
    induction d with
    | nil => exact SegOK.nil
    | cons kv rest ih =>
      obtain ⟨hk, hv, -⟩ := c kv List.mem_cons_self
      have := ih fun y hy => c y (List.mem_cons_of_mem _ hy)
      obtain ⟨k, _ | v⟩ := kv
      · exact this
      · exact (SegOK.line rfl hk (hv v rfl)).append this

theorem join_isEmpty (sep : Str) (parts : List Str) (h : ∀ x ∈ parts, x.isEmpty = false) :
    (join sep parts).isEmpty = parts.isEmpty := by
  fun_cases join sep parts with
  | case1 => rfl
  | case2 x => exact h x List.mem_cons_self
  | case3 x y rest =>
    have := h x List.mem_cons_self
    cases x with
    | nil => cases this
    | cons c cs => rfl

/-- the header lines of the model, as the concatenation of its blocks -/
def headerLines (scheme : Str) (u : UrlParts) (o : Opts) (rand : Bytes) (jar : Str) : List Str :=
  ["Upgrade: websocket".toList, hostLine u.host u.port o] ++ originSeg scheme u.host u.port o
    ++ ["Sec-WebSocket-Key: ".toList ++ Base64.encode rand,
        "Sec-WebSocket-Version: ".toList ++ natRepr Gen.wsVersion, connLine o]
    ++ subSeg o ++ customLines o.header ++ cookieSeg o jar

theorem truthy_eq : truthy = nonEmpty := rfl

/-- block by block; each fixed field is a `SegOK.line`: the text of the line, the name, why the value is clean. -/
theorem headerLines_ok {u : UrlParts} {o : Opts} {jar : Str} (c : Clean u o jar) {scheme : Str} (rand : Bytes)
    (hsec : u.secure = true ↔ scheme = "wss".toList) :
    SegOK (headerLines scheme u o rand jar) (expectedRaw u o rand jar) := by
  have hhp := noCRLF_hostPort c.host
  unfold headerLines expectedRaw
  refine ((((SegOK.append ?upgradeHost ?origin).append ?keyVersionConnection).append ?protocol).append
    (seg_custom c.header)).append ?cookie
  case upgradeHost =>
    refine (SegOK.line (by lit rfl) (by lit decide) (by lit decide)).append
      (SegOK.line ?_ (by lit decide) (noCRLF_getD c.optHost hhp))
    unfold hostLine
    rw [truthy_eq]
    cases nonEmpty o.host <;> lit rfl
  case origin =>
    have hn : isToken "Origin".toList = true := by lit decide
    unfold originSeg
    split
    · exact SegOK.nil
    · cases ho : o.origin with
      | some og => exact SegOK.line (by lit rfl) hn (c.origin og ho)
      | none =>
        simp only [← hsec]
        split
        all_goals
          refine SegOK.line (by lit rfl) hn ?_
          rw [noCRLF_append, hhp]
          lit decide
  case keyVersionConnection =>
    refine (SegOK.line (by lit rfl) (by lit decide) (noCRLF_encode rand)).append <|
      (SegOK.line (by lit rfl) (by lit decide) (by lit decide)).append <|
      SegOK.line ?_ (by lit decide) (noCRLF_getD c.connection (by lit decide))
    unfold connLine
    rw [truthy_eq]
    cases nonEmpty o.connection <;> lit rfl
  case protocol =>
    unfold subSeg
    split
    · exact SegOK.nil
    · exact SegOK.line (by lit rfl) (by lit decide) (noCRLF_join (by decide) c.subs)
  case cookie =>
    have hcl : ∀ x ∈ [jar, o.cookie.getD []], noCRLF x = true := by
      intro x hx
      simp only [List.mem_cons, List.not_mem_nil, or_false] at hx
      rcases hx with rfl | rfl
      · exact c.jar
      · cases h : o.cookie with
        | none => rfl
        | some y => exact c.cookie y h
    simp only [cookieSeg]
    rw [join_isEmpty]
    · split
      · exact SegOK.nil
      · exact SegOK.line (by lit rfl) (by lit decide)
          (noCRLF_join (by lit decide) fun x hx => hcl x (List.mem_filter.mp hx).1)
    · intro x hx
      simpa using (List.mem_filter.mp hx).2

theorem parseRequest_render {t : Str} {lines : List Str} {raw : List (Str × Str)} (ht : isTarget t = true)
    (h : SegOK lines raw) :
    parseRequest (requestText (("GET ".toList ++ t ++ " HTTP/1.1".toList) :: (lines ++ [[], []])))
      = some ⟨t, raw.map norm⟩ := by
  have hcr : ∀ l ∈ ("GET ".toList ++ t ++ " HTTP/1.1".toList) :: (lines ++ [[], []]), '\r' ∉ l := by
    simpa [or_imp, forall_and] using ⟨Lemmas.Py.not_mem_of_all (Bool.and_eq_true_iff.mp ht).2 (by decide), h.2⟩
  unfold parseRequest requestText
  rw [String.toList_ofList, Lemmas.Crlf.splitCRLF_join (List.cons_ne_nil _ _) hcr]
  simp only [List.reverse_append, List.reverse_cons, List.reverse_nil, List.nil_append, List.cons_append,
    List.reverse_reverse, parseRequestLine_render ht, h.1]

theorem customSeg_eq (o : Opts) : customSeg o = customLines o.header := by
  unfold customSeg headerTruthy customLines
  cases o.header with
  | absent => simp
  | list l => cases l <;> simp
  | dict d => cases d <;> simp

theorem headerHas_key_false {opt : HeaderOpt} (c : cleanHeader opt) :
    headerHas opt "Sec-WebSocket-Key".toList = false ∧ headerHas opt "Sec-WebSocket-Version".toList = false := by
  cases opt with
  | absent => exact ⟨rfl, rfl⟩
  | list l =>
    simp only [headerHas, List.contains_eq_mem, decide_eq_false_iff_not]
    exact ⟨fun hm => absurd (c _ hm).2 (by lit decide), fun hm => absurd (c _ hm).2 (by lit decide)⟩
  | dict d =>
    simp only [headerHas, List.any_eq_false, decide_eq_true_eq]
    exact ⟨fun kv hkv => have ⟨_, _, notKey, _⟩ := c kv hkv; notKey,
      fun kv hkv => have ⟨_, _, _, notVersion⟩ := c kv hkv; notVersion⟩

theorem model_lines {scheme rest : Str} {u : UrlParts} {o : Opts} {rand : Bytes} {jar : Str} (hsch : ':' ∉ scheme)
    (c : cleanHeader o.header) :
    getHandshakeHeaders u.resource (scheme ++ ':' :: rest) u.host u.port o rand jar
      = .ok (("GET ".toList ++ u.resource ++ " HTTP/1.1".toList) ::
              (headerLines scheme u o rand jar ++ [[], []]), Base64.encode rand) := by
  obtain ⟨hk, hv⟩ := headerHas_key_false c
  unfold getHandshakeHeaders
  rw [splitN_one rest hsch]
  simp only [keySeg, versionSeg, hk, hv, Bool.not_false, Bool.or_true, if_true, customSeg_eq, createKey_eq,
    headerLines, List.append_assoc, List.cons_append, List.nil_append]

end WS.Lemmas.HttpRequest
