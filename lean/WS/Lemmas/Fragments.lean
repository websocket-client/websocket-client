/-
  WS.Lemmas.Fragments — what the receive loop leaves behind when it reads frames and goes on (`Absorbs`); a run of pings and
  pongs is absorbed in any reassembly state (`ctrl_absorbs`; `ctrl_prefix` states it as one equation of the loop); with per-fragment delivery (`fire_cont_frame=True`) the data
  frame that follows is returned as it is (`fragment_call`).
-/
import WS.Lemmas.Loop
namespace WS.Lemmas.Fragments
open WS WS.Model WS.Spec WS.Lemmas.RecvStrict WS.Lemmas.Frame WS.Lemmas.Parser WS.Lemmas.Stream WS.Lemmas.ShortWrites WS.Lemmas.Loop
open WS.Lemmas.Walk (loop_ping loop_other)

/-- the key source after the pongs owed for `fs` have been written: one key per ping. -/
def keysAfter : List Bytes → List Frame → List Bytes
  | keys, [] => keys
  | keys, f :: rest => if f.opcode = 9 then keysAfter keys.tail rest else keysAfter keys rest

theorem pongsWire_append (a b : List Frame) : ∀ keys, pongsWire keys (a ++ b) = pongsWire keys a ++ pongsWire (keysAfter keys a) b := by
  induction a with
  | nil =>
    intro keys
    simp [pongsWire, keysAfter]
  | cons f rest ih =>
    intro keys
    simp only [List.cons_append, pongsWire, keysAfter]
    split
    · rw [ih, List.append_assoc]
    · rw [ih]

theorem keysAfter_append (a b : List Frame) : ∀ keys, keysAfter keys (a ++ b) = keysAfter (keysAfter keys a) b := by
  induction a with
  | nil =>
    intro keys
    simp [keysAfter]
  | cons f rest ih =>
    intro keys
    simp only [List.cons_append, keysAfter]
    split <;> rw [ih]

/-- the loop reads the frames `fs` from `c`, answers the pings among them and goes on from `c'` (per-fragment delivery off, `cf = false`: with it on the first
    frame ends the call): what this leaves behind, the reassembly fields aside.  `tail` is the socket's field. -/
structure Absorbs (c : Conn) (fs : List Frame) (c' : Conn) : Prop where
  loop : ∀ fuel, Conn.recvDataFrameLoop (fuel + fs.length) c false = Conn.recvDataFrameLoop fuel c' false
  skipUtf8 : c'.skipUtf8 = c.skipUtf8
  fireCont : c'.fireCont = c.fireCont
  connected : c'.connected = c.connected
  tail : c'.sock.tail = c.sock.tail
  wire : c'.sock.wire = c.sock.wire ++ pongsWire c.keys fs
  keys : c'.keys = keysAfter c.keys fs

theorem Absorbs.nil (c : Conn) : Absorbs c [] c :=
  ⟨fun _ => rfl, rfl, rfl, rfl, rfl, (List.append_nil _).symm, rfl⟩

theorem Absorbs.cons {c c1 c2 : Conn} {f : Frame} {fs : List Frame} (t : Absorbs c [f] c1) (u : Absorbs c1 fs c2) :
    Absorbs c (f :: fs) c2 where
  loop fuel := (t.loop (fuel + fs.length)).trans (u.loop fuel)
  skipUtf8 := u.skipUtf8.trans t.skipUtf8
  fireCont := u.fireCont.trans t.fireCont
  connected := u.connected.trans t.connected
  tail := u.tail.trans t.tail
  wire := by rw [u.wire, t.wire, t.keys, List.append_assoc, ← pongsWire_append [f]]; rfl
  keys := by rw [u.keys, t.keys, ← keysAfter_append [f]]; rfl

/-- a turn that writes nothing: `recv_frame` (`c1`), then at most an update of the reassembly fields. -/
theorem Absorbs.of_same {c c1 : Conn} {f : Frame} (s : SameLoop c c1) (hf : f.opcode ≠ 9) (cd : Option (Nat × Bytes))
    (rc : Option Nat)
    (e : ∀ fuel, Conn.recvDataFrameLoop (fuel + 1) c false =
      Conn.recvDataFrameLoop fuel { c1 with contData := cd, recving := rc } false) :
    Absorbs c [f] { c1 with contData := cd, recving := rc } :=
  ⟨e, s.skipUtf8, s.fireCont, s.connected, s.tail, by rw [pongsWire, if_neg hf, pongsWire, List.append_nil]; exact s.wire,
    by rw [keysAfter, if_neg hf]; exact s.keys⟩

theorem turn_ctrl {c : Conn} {f : Frame} {fs : List Frame} {tail : Bytes} (h : Fed c (f :: fs) tail)
    (hf : isPing f ∨ isPong f) :
    ∃ c2, Fed c2 fs tail ∧ Absorbs c [f] c2 ∧ c2.contData = c.contData ∧ c2.recving = c.recving := by
  obtain ⟨c1, e1, h1, s1⟩ := step_recv h
  rcases hf with ⟨hop, _, hlen⟩ | hop
  · obtain ⟨wp, s, hfmt, hwr, e2⟩ := send_ok c1 f.data Gen.opcodePong h1.ready.writable (by decide) (by omega)
    refine ⟨{ c1 with keys := c1.keys.tail, keyDraws := c1.keyDraws + 1, sock := s }, ?_,
      ⟨fun fuel => ?_, s1.skipUtf8, s1.fireCont, s1.connected, ?_, ?_, by rw [keysAfter, if_pos hop, ← s1.keys]; rfl⟩,
      s1.contData, s1.recving⟩
    all_goals obtain ⟨_, _, _, _, rfl, hwire⟩ := hwr
    · -- still `Fed`: the write side is no part of it
      exact ⟨⟨h1.ready.live, h1.ready.chunks, h1.ready.cleared, h1.ready.writable⟩, h1.stream⟩
    · -- the turn of the loop
      refine (loop_ping e1 hop fuel false).trans ?_
      rw [if_pos (by omega), show c1.sendFrame _ = _ from e2]
      rfl
    · exact s1.tail
    · -- the wire: one pong, with the key at hand
      rw [hwire, s1.wire, pongsWire, if_pos hop, ← s1.keys, hfmt, pongsWire, List.append_nil]
  · have hop : f.opcode = 10 := hop
    refine ⟨c1, h1, Absorbs.of_same s1 (by omega) c1.contData c1.recving fun fuel => ?_, s1.contData, s1.recving⟩
    rw [loop_other e1 (by omega) (by omega) (by omega), Bool.and_false]
    rfl

theorem ctrl_absorbs (cs : List Frame) (hc : ∀ f ∈ cs, isPing f ∨ isPong f) : ∀ {c : Conn} {rest : List Frame} {tail : Bytes},
    Fed c (cs ++ rest) tail →
    ∃ c2, Fed c2 rest tail ∧ Absorbs c cs c2 ∧ c2.contData = c.contData ∧ c2.recving = c.recving := by
  induction cs with
  | nil => exact fun h => ⟨_, h, .nil _, rfl, rfl⟩
  | cons f cs ih =>
    intro c rest tail h
    obtain ⟨c1, h1, t, cd1, rc1⟩ := turn_ctrl h (hc f List.mem_cons_self)
    obtain ⟨c2, h2, u, cd2, rc2⟩ := ih (fun g hg => hc g (List.mem_cons_of_mem _ hg)) h1
    exact ⟨c2, h2, t.cons u, cd2.trans cd1, rc2.trans rc1⟩

/-- `ctrl_absorbs` in the terms of `Ready` and `DecodesTo`. -/
theorem ctrl_prefix (cs : List Frame) (hc : ∀ f ∈ cs, isPing f ∨ isPong f) :
    ∀ (c : Conn) (wsc wsr : List WireFrame) (tail : Bytes) (fuel : Nat),
      Ready c → wsc.map frameOfWire = cs → (∀ w ∈ wsc, validate (frameOfWire w) c.skipUtf8 = none) →
      DecodesTo (pending c) (wsc ++ wsr) tail →
      ∃ c2, Conn.recvDataFrameLoop (fuel + cs.length) c false = Conn.recvDataFrameLoop fuel c2 false ∧
        Ready c2 ∧ DecodesTo (pending c2) wsr tail ∧ c2.fireCont = c.fireCont ∧ c2.contData = c.contData ∧
        c2.recving = c.recving ∧ c2.skipUtf8 = c.skipUtf8 ∧ c2.connected = c.connected ∧
        c2.sock.wire = c.sock.wire ++ pongsWire c.keys cs ∧ c2.keys = keysAfter c.keys cs := by
  intro c wsc wsr tail fuel hr hmap hval hd
  obtain ⟨mid, d1, d2⟩ := decodesTo_append hd
  obtain ⟨c2, h2, t, cd, rc⟩ := ctrl_absorbs cs hc (rest := []) ⟨hr, wsc, by rwa [List.append_nil], d1, hval⟩
  exact ⟨c2, t.loop fuel, h2.ready, h2.pending ▸ d2, t.fireCont, cd, rc, t.skipUtf8, t.connected, t.wire, t.keys⟩

/-- the in-message flag after a data frame (specification side, as `FragOk`). -/
def nextSt (st : Option Nat) (f : Frame) : Option Nat :=
  if f.fin = 1 then none else match st with | none => some f.opcode | some op => some op

/-- a data frame that is legal in the sequencing state `st` (RFC 6455 §5.4). -/
def FragOk (st : Option Nat) (f : Frame) : Prop :=
  (f.fin = 0 ∨ f.fin = 1) ∧ match st with | none => f.opcode = 1 ∨ f.opcode = 2 | some _ => f.opcode = 0

/-- state between calls with per-fragment delivery on: nothing is accumulated. -/
def FragInv (c : Conn) (st : Option Nat) : Prop :=
  c.fireCont = true ∧ c.contData = none ∧ c.recving = st ∧ (∀ op, st = some op → op = 1 ∨ op = 2)

theorem fragment_call (cs : List Frame) (hc : ∀ f ∈ cs, isPing f ∨ isPong f) (f : Frame) (st : Option Nat)
    (hf : FragOk st f) (c : Conn) (ws : List WireFrame) (tail : Bytes)
    (hr : Ready c) (hinv : FragInv c st) (hmap : ws.map frameOfWire = cs ++ [f])
    (hval : ∀ w ∈ ws, validate (frameOfWire w) c.skipUtf8 = none) (hd : DecodesTo (pending c) ws tail) :
    ∃ c', c.recvDataFrame false = (.ok (f.opcode, f), c') ∧ Ready c' ∧ pending c' = tail ∧
      FragInv c' (nextSt st f) ∧ c'.skipUtf8 = c.skipUtf8 ∧
      c'.sock.wire = c.sock.wire ++ pongsWire c.keys cs ∧ c'.keys = keysAfter c.keys cs := by
  obtain ⟨hfc, hcd, hrc, hst⟩ := hinv
  have h : Fed c (cs ++ [f]) tail := ⟨hr, ws, hmap, hd, hval⟩
  obtain ⟨k, hk⟩ := h.fuel
  obtain ⟨c2, h2, t, cd2, rc2⟩ := ctrl_absorbs cs hc h
  have hnext : (if f.fin != 0 then none else some (st.getD f.opcode)) = nextSt st f := by
    unfold nextSt
    rcases hf.1 with h | h <;> rw [h] <;> cases st <;> rfl   -- FIN 0 or 1, outside or inside a message
  obtain ⟨c3, _, h3, s, rfl, e3⟩ := turn_data (op := f.opcode) (d := f.data) h2 (rc2.trans hrc) hst
    (fun _ => cd2.trans hcd) hf.2 (by rw [cd2, hcd])
  rw [hnext] at e3
  have h' := h3.cont none (nextSt st f)
  refine ⟨_, ?_, h'.ready, h'.pending, ⟨s.fireCont.trans (t.fireCont.trans hfc), rfl, rfl, fun op hop => ?_⟩,
    s.skipUtf8.trans t.skipUtf8, s.wire.trans t.wire, s.keys.trans t.keys⟩
  · rw [Conn.recvDataFrame, hk, t.loop, e3, t.fireCont, hfc, Bool.or_true]
    rfl
  · rw [← hnext] at hop
    split at hop
    · cases hop
    · cases hop
      exact InSeq.op (st := st) hf.2 hst

end WS.Lemmas.Fragments
