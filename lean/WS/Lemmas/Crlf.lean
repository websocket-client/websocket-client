/-
  WS.Lemmas.Crlf — lines joined by CRLF split back into those lines.  The Spec of the CONNECT head
  (`Spec.NoProxy.crlfLines` over `Py.joinStr`) and the Spec of the opening request (`Spec.Http.splitCRLF` over
  `PyH2.join`) each define the splitting; the two definitions are the same function, so the round trip is proved once.
-/
import WS.Spec.NoProxy
import WS.Spec.HttpRequest
namespace WS.Lemmas.Crlf
open WS WS.Py WS.Spec.NoProxy

/-- `hb`: `b` is empty or begins with CRLF. -/
theorem crlfLines_append {a b : Str} {ls : List Str} (h : '\r' ∉ a) (hb : crlfLines b = [] :: ls) :
    crlfLines (a ++ b) = a :: ls := by
  induction a with
  | nil => exact hb
  | cons x xs ih =>
    rw [List.cons_append, crlfLines, ih fun e => h (.tail _ e)]
    · rfl
    · exact fun _ e => absurd (e ▸ .head _) h

theorem crlfLines_joinStr {ls : List Str} (hne : ls ≠ []) (h : ∀ l ∈ ls, '\r' ∉ l) :
    crlfLines (joinStr ['\r', '\n'] ls) = ls := by
  induction ls with
  | nil => exact absurd rfl hne
  | cons p ps ih =>
    have hp := h p (.head _)
    cases ps with
    | nil =>
      have := crlfLines_append (b := []) hp rfl
      rwa [List.append_nil] at this
    | cons q r =>
      rw [joinStr, List.append_assoc]
      exact crlfLines_append hp (congrArg _ (ih (List.cons_ne_nil _ _) fun l hl => h l (.tail _ hl)))

theorem splitCRLF_eq (s : Str) : Spec.Http.splitCRLF s = crlfLines s := by
  fun_induction crlfLines s with
  | case1 => rfl
  | case2 rest ih => simp [Spec.Http.splitCRLF, ih]
  | case3 c rest hne ih =>
    cases rest with
    | nil => rfl
    | cons d rest =>
      rw [Spec.Http.splitCRLF, if_neg fun h : c = '\r' ∧ d = '\n' => hne rest h.1 (h.2 ▸ rfl), ih]
      cases crlfLines (d :: rest) <;> rfl

theorem join_eq (sep : Str) (ls : List Str) : PyH2.join sep ls = joinStr sep ls := by
  fun_induction joinStr sep ls <;> simp [PyH2.join, *]

theorem splitCRLF_join {ls : List Str} (hne : ls ≠ []) (h : ∀ l ∈ ls, '\r' ∉ l) :
    Spec.Http.splitCRLF (PyH2.join ['\r', '\n'] ls) = ls := by
  rw [splitCRLF_eq, join_eq, crlfLines_joinStr hne h]

end WS.Lemmas.Crlf
