/-
  WS.Lemmas.B64 — the proxy-auth codec `Base/B64`, over `Str`, whose decoder ignores the padding bits: round trip, and
  the encoding holds no CR or space.
-/
import WS.Base.B64
import WS.Lemmas.Base64
namespace WS.Lemmas.B64
open WS.Py WS.B64

theorem dec_enc : ∀ n, n < 64 → dec (enc n) = some n := by decide +kernel

theorem enc_ne {n : Nat} (hn : n < 64) {c : Char} (hc : dec c = none) : enc n ≠ c := by
  rintro rfl
  rw [dec_enc n hn] at hc
  cases hc

theorem decode_encode (bs : List UInt8) : decode (encode bs) = some bs := by
  fun_induction encode bs with
  | case1 => rfl
  | case2 a =>
    have s := Base64.sextets a 0 0
    simp only [UInt8.toNat_zero, Nat.zero_div, Nat.add_zero] at s
    simp only [decode, dec_enc, s, UInt8.ofNat_toNat]
  | case3 a b =>
    have s := Base64.sextets a b 0
    simp only [UInt8.toNat_zero, Nat.zero_div, Nat.add_zero] at s
    obtain ⟨⟨lt1, lt2, lt3, -⟩, bytes⟩ := s
    rw [decode]
    · simp only [dec_enc, lt1, lt2, lt3, bytes, UInt8.ofNat_toNat]
    · exact enc_ne lt3 rfl
  | case4 a b c rest ih =>
    obtain ⟨⟨lt1, lt2, lt3, lt4⟩, bytes⟩ := Base64.sextets a b c
    -- the padded equations of `decode` do not apply: the fourth character is no pad
    rw [decode]
    · simp only [dec_enc, lt1, lt2, lt3, lt4, bytes, ih, UInt8.ofNat_toNat]
    · exact fun _ e => (enc_ne lt4 rfl e).elim
    · exact fun e => (enc_ne lt4 rfl e).elim

theorem mem_encode (bs : List UInt8) : ∀ c ∈ encode bs, c = '=' ∨ ∃ n < 64, c = enc n := by
  have h {n} (hn : n < 64) : enc n = '=' ∨ ∃ m < 64, enc n = enc m := .inr ⟨n, hn, rfl⟩
  fun_induction encode bs with
  | case1 => nofun
  | case2 a =>
    obtain ⟨⟨lt1, lt2, -, -⟩, -⟩ := Base64.sextets a 0 0
    simp only [List.forall_mem_cons]
    exact ⟨h lt1, h lt2, .inl trivial, .inl trivial, nofun⟩
  | case3 a b =>
    obtain ⟨⟨lt1, lt2, lt3, -⟩, -⟩ := Base64.sextets a b 0
    simp only [List.forall_mem_cons]
    exact ⟨h lt1, h lt2, h lt3, .inl trivial, nofun⟩
  | case4 a b c rest ih =>
    obtain ⟨⟨lt1, lt2, lt3, lt4⟩, -⟩ := Base64.sextets a b c
    simp only [List.forall_mem_cons]
    exact ⟨h lt1, h lt2, h lt3, h lt4, ih⟩

theorem encode_safe (bs : List UInt8) : ∀ c ∈ encode bs, c ≠ '\r' ∧ c ≠ ' ' := by
  intro c hc
  rcases mem_encode bs c hc with h | ⟨n, hn, h⟩
  · rw [h]
    decide
  · rw [h]
    exact ⟨enc_ne hn rfl, enc_ne hn rfl⟩

end WS.Lemmas.B64
