/-
  WS.Lemmas.Link — the state machine of the link: the four fields that say whether and how the object is attached to a
  transport, and the few moves the library makes on them.  The receive and send functions, the loop, `close`, `closeWait`,
  `shutdown` and `abort` refine a run of this machine (`*_run`, one walk; `send`/`ping`/`pong` are `sendFrame` of a created
  frame by definition); an invariant of the link is checked on the moves only (`Released`, `OwnClose`, `Loss`).
-/
import WS.Lemmas.Walk
import WS.Lemmas.ShortWrites

namespace WS.Lemmas.Link
open WS WS.Model WS.Lemmas.RecvStrict WS.Lemmas.Walk WS.Lemmas.ShortWrites

structure Link where
  sock : Sock
  hasSock : Bool
  connected : Bool
  ownCloses : Nat

/-- what the machine sees of `c`: the functions of `Model.Conn` are stated as `Run (link c) e (link c')`. -/
def link (c : Conn) : Link := ⟨c.sock, c.hasSock, c.connected, c.ownCloses⟩

/-- for predicates on `Conn` that read the link only: `P (link c).conn` unfolds to `P c`. -/
def Link.conn (l : Link) : Conn :=
  { sock := l.sock, hasSock := l.hasSock, connected := l.connected, ownCloses := l.ownCloses }

/-- `Run l e l'`: a call takes the link from `l` to `l'`, ending normally (`e = none`) or raising `e`.
    * `ok`, `seq`: no move, one run after another; `caught`: the caller swallows the exception (`try … except: pass`);
    * `io`: any transport call on the socket the object holds (read, write, settimeout, shutdown(2));
    * `disconnect`: `connected = False` in `send_close`;
    * `own`: the two places that write a close frame on the client's own initiative (`close()`, the reply to the
      server's close frame) — both require `connected` and clear it;
    * `release`: `sock.close(); sock = None; connected = False` (`shutdown()`, and `_recv` at end of stream);
    * `raise`: the connection-closed exception is raised only by an object that holds no transport. -/
inductive Run : Link → Option Exn → Link → Prop
  | ok (l : Link) : Run l none l
  | seq {a b c : Link} {e : Option Exn} : Run a none b → Run b e c → Run a e c
  | caught {a b : Link} {e : Option Exn} : Run a e b → Run a none b
  | raise (l : Link) (e : Exn) : (e = .closed → l.hasSock = false) → Run l (some e) l
  | io (l : Link) (s : Sock) : l.hasSock = true → Run l none { l with sock := s }
  | disconnect (l : Link) : Run l none { l with connected := false }
  | own (l : Link) : l.connected = true → Run l none { l with connected := false, ownCloses := l.ownCloses + 1 }
  | release (l : Link) : l.hasSock = true → Run l none { l with sock := l.sock.close, hasSock := false, connected := false }

theorem Run.fail (l : Link) {e : Exn} (h : e ≠ .closed) : Run l (some e) l := .raise l e (fun h' => absurd h' h)

theorem sockRecv_run (c : Conn) (n : Nat) : Run (link c) (raised (c.sockRecv n).1) (link (c.sockRecv n).2) := by
  rcases sockRecv_spec c n with ⟨hs, h⟩ | ⟨hs, s, _, ⟨d, h, _⟩ | ⟨e, h, he⟩ | h⟩ <;> rw [h]
  · exact .raise _ .closed fun _ => hs     -- no socket
  · exact .io _ s hs                        -- data
  · exact .seq (.io _ s hs) (.fail _ he)    -- the socket raises
  · exact .seq (.io _ s hs) (.seq (.release _ hs) (.raise _ .closed fun _ => rfl))   -- end of stream

theorem sendFrame_run (c : Conn) (f : Frame) : Run (link c) (raised (c.sendFrame f).1) (link (c.sendFrame f).2) := by
  rcases sendFrame_spec c f with ⟨e, _, hne, h⟩ | ⟨w, _, ⟨hs, h⟩ | ⟨hs, s, _, _, _, _, ⟨h, _⟩ | ⟨h, _⟩⟩⟩ <;>
    rw [h]
  · exact .fail _ hne                        -- `format` raises
  all_goals rw [drawn_eq]
  · exact .raise _ .closed fun _ => hs        -- no socket
  · exact .io _ s hs                           -- written
  · exact .seq (.io _ s hs) (.fail _ nofun)    -- a write refused

theorem sendClose_run (c : Conn) (s : Int) (r : Bytes) : Run (link c) (raised (c.sendClose s r).1) (link (c.sendClose s r).2) := by
  unfold Conn.sendClose
  split
  · exact .fail _ nofun
  · exact .seq (.disconnect _) (sendFrame_run { c with connected := false } _)

theorem run_recv : ReadClosed (fun c e c' => Run (link c) e (link c')) where
  ok _ := .ok _
  seq := .seq
  fail _ _ h := .fail _ h
  read c n _ := sockRecv_run c n
  buf _ _ := .ok _

theorem run_loop : LoopClosed (fun c e c' => Run (link c) e (link c')) where
  toFrameClosed := run_recv.frameClosed fun _ _ _ _ => .ok _
  cont _ _ _ := .ok _
  send := sendFrame_run
  reply _ h := .own _ h

theorem recvFrame_run (c : Conn) : Run (link c) (raised c.recvFrame.1) (link c.recvFrame.2) :=
  run_loop.recvFrame c

theorem recvDataFrameLoop_run (fuel : Nat) (cf : Bool) (c : Conn) :
    Run (link c) (raised (Conn.recvDataFrameLoop fuel c cf).1) (link (Conn.recvDataFrameLoop fuel c cf).2) :=
  run_loop.recvDataFrameLoop fuel cf c

theorem shutdown_run (c : Conn) : Run (link c) none (link c.shutdown) := by
  unfold Conn.shutdown
  split
  · rename_i h
    exact .release _ h
  · exact .ok _

theorem closeWait_run (fuel : Nat) : ∀ (c : Conn) (start : Nat) (t : Option Nat),
    Run (link c) none (link (Conn.closeWait fuel c start t)) := by
  induction fuel with
  | zero => exact fun _ _ _ => .ok _
  | succ n ih =>
    intro c s t
    unfold Conn.closeWait
    refine iteInduction (motive := fun x => Run (link c) none (link x)) (fun _ => .ok _) fun _ => ?_
    have s1 := recvFrame_run c
    generalize c.recvFrame = r at s1
    obtain ⟨e | f, c1⟩ := r
    · exact .caught s1
    · exact iteInduction (motive := fun x => Run (link c) none (link x)) (fun _ => .seq s1 (ih c1 s t)) fun _ => s1

theorem close_run (c : Conn) (s : Int) (r : Bytes) (t : Option Nat) :
    Run (link c) (c.close s r t).1 (link (c.close s r t).2) := by
  unfold Conn.close
  cases hc : c.connected with
  | false => exact .ok _
  | true =>
    rw [if_neg nofun]
    by_cases hs : (decide (s < 0) || decide (s ≥ (Gen.length16 : Int))) = true
    · rw [if_pos hs]
      exact .fail _ nofun
    rw [if_neg hs]
    dsimp only   -- the `let`s
    refine .seq (.seq (.own _ hc) ?_) (shutdown_run _)
    have hq := sendFrame_run ({ c with connected := false, ownCloses := c.ownCloses + 1 } : Conn)
      (createFrame (beN 2 s.toNat ++ r) Gen.opcodeClose)
    unfold Conn.send
    generalize ({ c with connected := false, ownCloses := c.ownCloses + 1 } : Conn).sendFrame _ = rr at hq
    obtain ⟨e | v, c1⟩ := rr
    · exact .caught hq
    · dsimp only   -- the match on the pair
      refine .seq hq ?_
      by_cases hs : (!c1.hasSock) = true
      · rw [if_pos hs]
        exact .ok _
      rw [if_neg hs]
      generalize hw : Conn.closeWait _ _ _ t = cw
      have h2 : Run (link c1) none (link cw) := by
        rw [← hw]
        exact .seq (.io _ _ (by simpa [link] using hs))
          (closeWait_run _ { c1 with sock := { c1.sock with timeoutMs := t } } _ t)
      refine .seq h2 ?_
      by_cases hs' : (!cw.hasSock) = true
      · rw [if_pos hs']
        exact .ok _
      rw [if_neg hs']
      exact .io _ _ (by simpa [link] using hs')

theorem abort_run (c : Conn) : Run (link c) c.abort.1 (link c.abort.2) := by
  unfold Conn.abort
  split
  · split
    · rename_i h
      exact .io _ _ h
    · exact .fail _ nofun
  · exact .ok _

end WS.Lemmas.Link
