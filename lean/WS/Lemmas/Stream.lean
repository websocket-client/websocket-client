/-
  WS.Lemmas.Stream — repeated `recv_frame` calls over a stream of complete frames: the vocabulary of C02_stream and
  C03_segmentation.
-/
import WS.Lemmas.Total
namespace WS.Lemmas.Stream
open WS WS.Model WS.Spec WS.Lemmas.RecvStrict WS.Lemmas.Frame WS.Lemmas.Parser

/-- `bs` consists of the complete frames `ws` (as the RFC decoder reads them) followed by `tail`. -/
inductive DecodesTo : Bytes → List WireFrame → Bytes → Prop
  | nil (tail : Bytes) : DecodesTo tail [] tail
  | cons {bs rest tail : Bytes} {w : WireFrame} {ws : List WireFrame} :
      decode bs = .frame w rest → DecodesTo rest ws tail → DecodesTo bs (w :: ws) tail

/-- what one `recv_frame` call reports for a decoded frame. -/
def outcome (skip : Bool) (w : WireFrame) : Except Exn Frame :=
  match validate (frameOfWire w) skip with
  | some e => .error e
  | none => .ok (frameOfWire w)

/-- call `recv_frame` `k` times, collecting the outcomes. -/
def recvFrames : Nat → Conn → List (Except Exn Frame) × Conn
  | 0, c => ([], c)
  | k + 1, c =>
    let (r, c1) := c.recvFrame
    let (rs, c2) := recvFrames k c1
    (r :: rs, c2)

end WS.Lemmas.Stream
