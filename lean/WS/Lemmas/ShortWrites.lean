/-
  WS.Lemmas.ShortWrites — sending, for every socket: one `send` of the simulated socket (`sock_send_spec`), the
  `while data: l = self._send(data); data = data[l:]` loop (`sendLoop_spec`: the socket takes a prefix of `data`, all of it
  unless a write is refused) and `send_frame` as a whole (`sendFrame_spec`); the writable case, what a write leaves alone and
  which exceptions it raises are read off these.
-/
import WS.Model.Conn
import WS.Lemmas.Frame
namespace WS.Lemmas.ShortWrites
open WS WS.Model
open WS.Lemmas.Frame (format_cases)

/-- a socket that is open and whose writes do not fail (short writes allowed). -/
def Writable (c : Conn) : Prop := c.hasSock = true ∧ c.sock.closed = false ∧ c.sock.sendFailAt = none

/-- `s'` is `s` after `send` calls that accepted the bytes `pre` in all: only the write side of the record has moved. -/
def Wrote (s : Sock) (pre : Bytes) (s' : Sock) : Prop :=
  ∃ accI sendCalls calls sent,
    s' = { s with accI := accI, sendCalls := sendCalls, calls := calls, sent := sent } ∧ s'.wire = s.wire ++ pre

theorem Wrote.wire {s s' : Sock} {pre : Bytes} (h : Wrote s pre s') : s'.wire = s.wire ++ pre := by
  obtain ⟨_, _, _, _, _, hwire⟩ := h
  exact hwire

theorem Wrote.rfl' (s : Sock) : Wrote s [] s := ⟨_, _, _, _, rfl, (List.append_nil _).symm⟩

theorem Wrote.trans {a b c : Sock} {p q : Bytes} (h1 : Wrote a p b) (h2 : Wrote b q c) : Wrote a (p ++ q) c := by
  obtain ⟨_, _, _, _, rfl, w1⟩ := h1
  obtain ⟨_, _, _, _, rfl, w2⟩ := h2
  exact ⟨_, _, _, _, rfl, by rw [w2, w1, List.append_assoc]⟩

theorem wire_sent {s s' : Sock} {x : Bytes} (h : s'.sent = x :: s.sent) : s'.wire = s.wire ++ x := by
  simp [Sock.wire, h]

/-- one `send` of non-empty data: 1..len bytes are accepted, or the call is refused, which only a socket that is closed or
    set to fail does. -/
def SendOut (s : Sock) (d : Bytes) (r : SendRes × Sock) : Prop :=
  (∃ n, r.1 = .accepted n ∧ 1 ≤ n ∧ n ≤ d.length ∧ Wrote s (d.take n) r.2) ∨
  ((r.1 = .badFd ∨ r.1 = .epipe) ∧ Wrote s [] r.2 ∧ ¬ (s.closed = false ∧ s.sendFailAt = none))

theorem sock_send_spec (s : Sock) (d : Bytes) (hne : d ≠ []) : SendOut s d (s.send d) := by
  have hpos : 0 < d.length := List.length_pos_iff.2 hne
  have hemp : d.isEmpty = false := by cases d <;> simp_all
  unfold Sock.send
  dsimp only
  -- `split` on these tests is several times dearer
  refine iteInduction (fun hc => ?_) fun _ => iteInduction (fun hf => ?_) fun _ => ?_
  · exact .inr ⟨.inl rfl, ⟨_, _, _, _, rfl, (List.append_nil _).symm⟩, fun hw => nomatch hc.symm.trans hw.1⟩
  · refine .inr ⟨.inr rfl, ⟨_, _, _, _, rfl, (List.append_nil _).symm⟩, fun hw => ?_⟩
    rw [hw.2] at hf
    cases hf
  · rw [hemp]
    by_cases ha : s.accepts.isEmpty = true
    · rw [if_pos ha, if_pos ha]
      exact .inl ⟨_, rfl, hpos, Nat.le_refl _, _, _, _, _, rfl, wire_sent rfl⟩
    · rw [if_neg ha, if_neg ha]
      exact .inl ⟨_, rfl, Nat.le_max_left _ _, Nat.max_le.2 ⟨hpos, Nat.min_le_left _ _⟩, _, _, _, _, rfl, wire_sent rfl⟩

theorem sendLoop_released (fuel : Nat) (c : Conn) (d : Bytes) (h : c.hasSock = false) (hne : d ≠ []) :
    Conn.sendLoop (fuel + 1) c d = (some .closed, c) := by
  obtain ⟨a, t, rfl⟩ := List.exists_cons_of_ne_nil hne
  simp [Conn.sendLoop, Conn.sockSend, h]

theorem sendLoop_spec (fuel : Nat) : ∀ (c : Conn) (d : Bytes), c.hasSock = true → d.length < fuel →
    ∃ s pre suf, d = pre ++ suf ∧ Wrote c.sock pre s ∧
      (Conn.sendLoop fuel c d = (none, { c with sock := s }) ∧ suf = [] ∨
       Conn.sendLoop fuel c d = (some .transport, { c with sock := s }) ∧
         ¬ (c.sock.closed = false ∧ c.sock.sendFailAt = none)) := by
  induction fuel with
  | zero =>
    intro c d _ h
    omega
  | succ k ih =>
    intro c d hs hlen
    unfold Conn.sendLoop
    cases d with
    | nil => exact ⟨c.sock, [], [], rfl, Wrote.rfl' _, .inl ⟨rfl, rfl⟩⟩
    | cons a t =>
      rw [if_neg (by simp), Conn.sockSend, if_neg (by simp [hs])]
      have h1 := sock_send_spec c.sock (a :: t) (List.cons_ne_nil _ _)
      generalize c.sock.send (a :: t) = r at h1
      obtain ⟨res, s1⟩ := r
      rcases h1 with ⟨n, rfl, h1, h2, w1⟩ | ⟨hr, w1, hnw⟩
      · obtain ⟨s2, pre, suf, hd, w2, h⟩ := ih { c with sock := s1 } ((a :: t).drop n) hs
          (by rw [List.length_drop]; omega)
        have hw : ¬ (s1.closed = false ∧ s1.sendFailAt = none) →
            ¬ (c.sock.closed = false ∧ c.sock.sendFailAt = none) := by
          obtain ⟨_, _, _, _, rfl, _⟩ := w1
          exact id
        exact ⟨s2, (a :: t).take n ++ pre, suf, by rw [List.append_assoc, ← hd, List.take_append_drop], w1.trans w2,
          h.elim (fun h => .inl h) fun h => .inr ⟨h.1, hw h.2⟩⟩
      · refine ⟨s1, [], a :: t, rfl, w1, .inr ⟨?_, hnw⟩⟩
        rcases hr with rfl | rfl <;> rfl

/-- `send_frame` draws a key for a masked frame only (and only once `format` has succeeded). -/
def drawn (c : Conn) (f : Frame) : Conn :=
  if f.mask != 0 then { c with keys := c.keys.tail, keyDraws := c.keyDraws + 1 } else c

theorem drawn_eq (c : Conn) (f : Frame) :
    drawn c f = { c with keys := (drawn c f).keys, keyDraws := (drawn c f).keyDraws } := by
  unfold drawn
  split <;> rfl

/-- `send_frame` ends in one of four ways: `format` raises; no socket, CLOSED at the first write; all of `w` written; a write
    refused after a prefix of `w`. -/
theorem sendFrame_spec (c : Conn) (f : Frame) :
    (∃ e, format f (c.keys.headD [0, 0, 0, 0]) = .error e ∧ e ≠ .closed ∧ c.sendFrame f = (.error e, c)) ∨
    ∃ w, format f (c.keys.headD [0, 0, 0, 0]) = .ok w ∧
      ((c.hasSock = false ∧ c.sendFrame f = (.error .closed, drawn c f)) ∨
       (c.hasSock = true ∧ ∃ s pre suf, w = pre ++ suf ∧ Wrote c.sock pre s ∧
          (c.sendFrame f = (.ok w.length, { drawn c f with sock := s }) ∧ suf = [] ∨
           c.sendFrame f = (.error .transport, { drawn c f with sock := s }) ∧
             ¬ (c.sock.closed = false ∧ c.sock.sendFailAt = none)))) := by
  have hd : (drawn c f).hasSock = c.hasSock ∧ (drawn c f).sock = c.sock := by
    rw [drawn_eq]
    exact ⟨rfl, rfl⟩
  rw [Conn.sendFrame, ← drawn]
  rcases format_cases f (c.keys.headD [0, 0, 0, 0]) with h | h | ⟨b, w, h⟩ <;> rw [h]
  · exact .inl ⟨_, rfl, nofun, rfl⟩
  · exact .inl ⟨_, rfl, nofun, rfl⟩
  dsimp only
  refine .inr ⟨_, rfl, ?_⟩
  cases hs : c.hasSock with
  | false => exact .inl ⟨rfl, by rw [sendLoop_released _ _ _ (hd.1.trans hs) (List.cons_ne_nil _ _)]⟩
  | true =>
    obtain ⟨s, pre, suf, e, hw, h⟩ := sendLoop_spec ((b :: w).length + 1) (drawn c f) (b :: w) (hd.1.trans hs)
      (Nat.lt_succ_self _)
    rw [hd.2] at hw h
    exact .inr ⟨rfl, s, pre, suf, e, hw,
      h.imp (fun h => by rw [h.1]; exact ⟨rfl, h.2⟩) fun h => by rw [h.1]; exact ⟨rfl, h.2⟩⟩

theorem sendFrame_ok (c : Conn) (f : Frame) (w : Bytes) (hw : Writable c)
    (hf : format f (c.keys.headD [0, 0, 0, 0]) = .ok w) :
    ∃ s, c.sendFrame f = (.ok w.length, { drawn c f with sock := s }) ∧ Wrote c.sock w s := by
  rcases sendFrame_spec c f with ⟨e, h, _⟩ | ⟨w', h, hc⟩
  · exact nomatch hf.symm.trans h
  cases hf.symm.trans h
  rcases hc with ⟨hs, _⟩ | ⟨_, s, pre, suf, e, hwr, ⟨h, rfl⟩ | ⟨_, hn⟩⟩
  · exact nomatch hw.1.symm.trans hs
  · exact ⟨s, h, by rwa [e, List.append_nil]⟩
  · exact absurd hw.2 hn

theorem sendFrame_sent (c : Conn) (f : Frame) : ∃ s pre keys kd, Wrote c.sock pre s ∧
    (c.sendFrame f).2 = { c with sock := s, keys := keys, keyDraws := kd } := by
  rcases sendFrame_spec c f with ⟨e, _, _, h⟩ | ⟨w, _, ⟨_, h⟩ | ⟨_, s, pre, suf, _, hw, ⟨h, _⟩ | ⟨h, _⟩⟩⟩ <;>
    rw [h]
  · exact ⟨_, _, _, _, Wrote.rfl' _, rfl⟩               -- `format` raises
  · exact ⟨_, _, _, _, Wrote.rfl' _, drawn_eq c f⟩     -- no socket
  · exact ⟨s, pre, _, _, hw, by rw [drawn_eq]⟩          -- written
  · exact ⟨s, pre, _, _, hw, by rw [drawn_eq]⟩          -- refused

theorem sendFrame_error (c : Conn) (f : Frame) {w : Bytes} (hf : format f (c.keys.headD [0, 0, 0, 0]) = .ok w)
    {e : Exn} (he : (c.sendFrame f).1 = .error e) : e = .closed ∨ e = .transport := by
  rcases sendFrame_spec c f with ⟨_, h, _⟩ | ⟨_, _, ⟨_, h⟩ | ⟨_, _, _, _, _, _, ⟨h, _⟩ | ⟨h, _⟩⟩⟩
  · exact nomatch hf.symm.trans h
  all_goals
    rw [h] at he
    cases he
  · exact .inl rfl
  · exact .inr rfl

theorem sendLoop_writes_all (fuel : Nat) (c : Conn) (data : Bytes) (hw : Writable c) (hlen : data.length < fuel) :
    ∃ c', Conn.sendLoop fuel c data = (none, c') ∧ c'.sock.wire = c.sock.wire ++ data ∧ Writable c' := by
  obtain ⟨s, pre, suf, e, ⟨_, _, _, _, rfl, hwire⟩, ⟨h, rfl⟩ | ⟨_, hn⟩⟩ := sendLoop_spec fuel c data hw.1 hlen
  · exact ⟨_, h, by rw [e, List.append_nil]; exact hwire, hw⟩
  · exact absurd hw.2 hn

end WS.Lemmas.ShortWrites
