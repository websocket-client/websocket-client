/-
  WS.Lemmas.AppBasic — what every proof about WS.Model.App starts from: the generated shape facts, `_callback` as an equation,
  the routing functions, and the equations of the control functions in the situations the proofs meet.
-/
import WS.Model.App
namespace WS.Lemmas.App
open WS WS.Model.App

/-! Naming in the `App*` files, `f` a function of the model: `f_P` how `f` ends (`AppHoare`; `teardown_H` is `teardown_P`
    relative to `Stay s0 s`), `f_Q` its equation once the run has stopped (`f` does nothing), `f_keeps` "`f` keeps what its
    callees keep", `f_quiet` its equation under a `Quiet` plan, `low_f` "`f` is a sequence of `Low` steps" (`AppInv`), `pp_f`,
    `qs_f`, `rj_f` the invariants of `AppPings`, `AppStopped`, `AppRes` carried through `f`, `P_f` "the projection `P` commutes
    with `f`" (`AppKA`). -/

/-! ### generated shape facts (they hold of the repaired source; a regression breaks these proofs) -/

@[simp] theorem gen_closeToTeardown : Gen.appCloseFrameToTeardown = true := by decide
@[simp] theorem gen_msgOpcode : Gen.appOnDataMsgOpcode = true := by decide
@[simp] theorem gen_dataFirst : Gen.appDataBeforeMessage = true := by decide
@[simp] theorem gen_resets : Gen.appResetsHasErrored = true := by decide
@[simp] theorem gen_guard : Gen.appTeardownGuard = true := by decide
@[simp] theorem gen_tdStops : Gen.appTeardownStopsPing = true := by decide
@[simp] theorem gen_dcErr : Gen.appDisconnectSetsErrored = true := by decide
@[simp] theorem gen_dcStops : Gen.appDisconnectStopsPing = true := by decide
@[simp] theorem gen_finally : Gen.appFinallyTeardown = true := by decide
@[simp] theorem gen_onCloseLast : Gen.appOnCloseLast = true := by decide
@[simp] theorem gen_pongStamp : Gen.appPongStampWhenOutstanding = true := by decide
@[simp] theorem gen_closeGuard : Gen.appCloseGuard = true := by decide

abbrev act (c : Cfg) (cb : Cb) (k : Nat) : Act := c.act cb k

/-- callbacks only return or raise; on_error and on_close only return -/
def Quiet (c : Cfg) : Prop :=
  (∀ cb k, act c cb k = .ok ∨ act c cb k = .raise) ∧ (∀ k, act c .onError k = .ok) ∧ (∀ k, act c .onClose k = .ok)

@[simp] theorem emit_trace (s : St) (e : Ev) : (s.emit e).trace = s.trace ++ [(s.now, e)] := rfl
@[simp] theorem emit_now (s : St) (e : Ev) : (s.emit e).now = s.now := rfl
@[simp] theorem emit_keepRunning (s : St) (e : Ev) : (s.emit e).keepRunning = s.keepRunning := rfl
@[simp] theorem emit_sock (s : St) (e : Ev) : (s.emit e).sock = s.sock := rfl
@[simp] theorem emit_hasErrored (s : St) (e : Ev) : (s.emit e).hasErrored = s.hasErrored := rfl
@[simp] theorem emit_hdt (s : St) (e : Ev) : (s.emit e).hasDoneTeardown = s.hasDoneTeardown := rfl
@[simp] theorem emit_ping (s : St) (e : Ev) : (s.emit e).ping = s.ping := rfl
@[simp] theorem emit_lastPing (s : St) (e : Ev) : (s.emit e).lastPing = s.lastPing := rfl
@[simp] theorem emit_lastPong (s : St) (e : Ev) : (s.emit e).lastPong = s.lastPong := rfl
@[simp] theorem emit_calls (s : St) (e : Ev) : (s.emit e).calls = s.calls := rfl
@[simp] theorem emit_dials (s : St) (e : Ev) : (s.emit e).dials = s.dials := rfl
@[simp] theorem emit_nextIdx (s : St) (e : Ev) : (s.emit e).nextIdx = s.nextIdx := rfl
@[simp] theorem emit_evs (s : St) (e : Ev) : (s.emit e).evs = s.evs := rfl
@[simp] theorem emit_arr (s : St) (e : Ev) : (s.emit e).arr = s.arr := rfl
@[simp] theorem emit_sched (s : St) (e : Ev) : (s.emit e).sched = s.sched := rfl

/-- the trace entries one `_callback` adds under a quiet plan -/
def cbTrace (c : Cfg) (calls : Cb → Nat) (t : Nat) (cb : Cb) (args : List Arg) : Trace :=
  if !c.has cb then [] else
  (t, .cb cb args) ::
    (if act c cb (calls cb) = .raise && c.has .onError then [(t, .cb .onError [.exn (.user cb (calls cb))])] else [])

/-- the invocation counters after that `_callback` -/
def cbCalls (c : Cfg) (calls : Cb → Nat) (cb : Cb) : Cb → Nat :=
  if !c.has cb then calls else
  if act c cb (calls cb) = .raise && c.has .onError then bump (bump calls cb) .onError else bump calls cb

/-- the state in which the user function `cb` runs: the invocation counted and logged -/
def entered (s : St) (cb : Cb) (args : List Arg) : St := ({ s with calls := bump s.calls cb } : St).emit (.cb cb args)

section call
variable (c : Cfg) (s : St) (cb : Cb) (args : List Arg)

theorem rawCall_ok (h : act c cb (s.calls cb) = .ok) : rawCall c s cb args = (entered s cb args, .ok ()) := by
  simp only [rawCall, h, entered]

theorem rawCall_raise (h : act c cb (s.calls cb) = .raise) :
    rawCall c s cb args = (entered s cb args, .exc (.user cb (s.calls cb))) := by
  simp only [rawCall, h, entered]

theorem rawCall_ki (h : act c cb (s.calls cb) = .ki) : rawCall c s cb args = (entered s cb args, .exc .ki) := by
  simp only [rawCall, h, entered]

theorem rawCall_close (h : act c cb (s.calls cb) = .close) :
    rawCall c s cb args =
      ((appClose c (entered s cb args)).1, if (appClose c (entered s cb args)).2 then .ok () else .halt) := by
  simp only [rawCall, h, entered]
  exact (apply_ite ..).symm

theorem callback_eq :
    callback c s cb args =
      if !c.has cb then (s, .ok ())
      else if c.act cb (s.calls cb) = .raise then
        if c.has .onError then rawCall c (entered s cb args) .onError [.exn (.user cb (s.calls cb))]
        else (entered s cb args, .ok ())
      else rawCall c s cb args := by
  unfold callback
  cases c.has cb
  · rfl
  · cases h : c.act cb (s.calls cb)
    · rw [rawCall_ok c s cb args h]
      rfl
    · rw [rawCall_raise c s cb args h]
      rfl
    · rw [rawCall_close c s cb args h]
      cases (appClose c _).2 <;> rfl
    · rw [rawCall_ki c s cb args h]
      rfl

theorem rawCall_fst :
    (rawCall c s cb args).1 = entered s cb args ∨ (rawCall c s cb args).1 = (appClose c (entered s cb args)).1 := by
  cases h : act c cb (s.calls cb) <;> simp [rawCall_ok, rawCall_raise, rawCall_ki, rawCall_close, h]

theorem callback_fst :
    (callback c s cb args).1 = s ∨ (callback c s cb args).1 = (rawCall c s cb args).1 ∨
    (callback c s cb args).1 = (rawCall c (rawCall c s cb args).1 .onError [.exn (.user cb (s.calls cb))]).1 := by
  rw [callback_eq]
  cases c.has cb
  · exact .inl rfl
  · by_cases h : c.act cb (s.calls cb) = .raise
    · rw [if_pos h, rawCall_raise c s cb args h]
      cases c.has .onError
      · exact .inr (.inl rfl)
      · exact .inr (.inr rfl)
    · rw [if_neg h]
      exact .inr (.inl rfl)

end call

theorem rawCall_exc {c : Cfg} {s s1 : St} {cb : Cb} {args : List Arg} {e : AExn}
    (h : rawCall c s cb args = (s1, .exc e)) :
    (e = .user cb (s.calls cb) ∧ act c cb (s.calls cb) = .raise) ∨ (e = .ki ∧ act c cb (s.calls cb) = .ki) := by
  cases ha : act c cb (s.calls cb)
  · rw [rawCall_ok c s cb args ha] at h
    cases h
  · rw [rawCall_raise c s cb args ha] at h
    cases h
    exact .inl ⟨rfl, rfl⟩
  · rw [rawCall_close c s cb args ha] at h
    split at h <;> cases h
  · rw [rawCall_ki c s cb args ha] at h
    cases h
    exact .inr ⟨rfl, rfl⟩

theorem bump_other (f : Cb → Nat) (a b : Cb) (h : b ≠ a) : bump f a b = f b := by simp [bump, h]
theorem bump_self (f : Cb → Nat) (a : Cb) : bump f a a = f a + 1 := by simp [bump]

theorem callback_quiet (c : Cfg) (hq : Quiet c) (s : St) (cb : Cb) (args : List Arg) :
    callback c s cb args =
      ({ s with calls := cbCalls c s.calls cb, trace := s.trace ++ cbTrace c s.calls s.now cb args }, .ok ()) := by
  rw [callback_eq]
  unfold cbTrace cbCalls
  cases c.has cb
  · simp
  · rcases hq.1 cb (s.calls cb) with h | h
    · simp [h, rawCall_ok c s cb args h, entered, St.emit]
    · cases c.has .onError
      · simp [h, entered, St.emit]
      · simp [h, rawCall_ok c _ .onError _ (hq.2.1 _), entered, St.emit]

section keeps
variable {I : St → Prop} (c : Cfg)

@[simp] theorem asRead_fst (v : Bool) (x : St × R Unit) : (asRead v x).1 = x.1 := by
  fun_cases asRead v x <;> rfl

/-- `deliverMessage` and `firstStage` are `rlNext` of their two stages, and so are the inner matches of `afterReport` and
    `afterBody` (all by `rfl`) -/
theorem rlNext_keeps (k : St → St × R Unit) (x : St × R Unit) (hx : I x.1) (hk : ∀ s, I s → I (k s).1) :
    I (rlNext k x).1 := by
  fun_cases rlNext k x
  · exact hk _ hx
  · exact hx

theorem deliverMessage_keeps (cbk : ∀ s cb a, I s → I (callback c s cb a).1) (s : St) (op : Nat) (p : Bytes) (frag : Bool)
    (h : I s) : I (deliverMessage c s op p frag).1 :=
  rlNext_keeps (fun s => callback c s .onMessage [dataArg op p]) _ (cbk s _ _ h) fun s h => cbk s _ _ h

theorem afterReport_keeps (e : AExn) (td : ∀ s, I s → I (teardown c s none).1) (s : St) (h : I s) :
    I (afterReport c s e).1 := by
  unfold afterReport
  split
  · exact rlNext_keeps (fun s => (s, .exc .ki)) _ (td s h) fun _ h => h
  · split
    · exact h
    · exact td s h

theorem handleDisconnectBody_keeps (s : St) (e : AExn) (rc : Bool) (h0 : I (stopPing { s with hasErrored := true }))
    (cbk : ∀ s, I s → I (callback c s .onError [.exn e]).1) (td : ∀ s, I s → I (teardown c s none).1) :
    I (handleDisconnectBody c s e rc).1 := by
  unfold handleDisconnectBody
  simp only [gen_dcErr, gen_dcStops, ↓reduceIte]
  cases rc
  · have r := cbk _ h0
    generalize callback c _ .onError [.exn e] = x at r ⊢
    rcases x with ⟨s2, _ | _ | _⟩
    · exact afterReport_keeps c e td s2 r
    · exact r
    · exact r
  · exact afterReport_keeps c e td _ h0

theorem afterRead_keeps (k : St → St × R Unit) (x : St × R Bool) (hx : I x.1) (hk : ∀ s, I s → I (k s).1) :
    I (afterRead c k x).1 := by
  fun_cases afterRead c k x
  · exact hx  -- `read()` raised
  · exact hx  -- cut
  · exact hx  -- it returned False
  · exact hx  -- `check()` reports a timeout
  · exact hk _ hx  -- on to `k`

theorem afterLoop_keeps (rc : Bool) (hd : ∀ s e, I s → I (handleDisconnect c s e rc).1) (x : St × R Unit) (h : I x.1) :
    I (afterLoop c rc x).1 := by
  fun_cases afterLoop c rc x
  · exact hd _ _ h
  · exact h

theorem afterOpen_keeps (rc : Bool) (hd : ∀ s e, I s → I (handleDisconnect c s e rc).1)
    (dl : ∀ s, I s → I (dispLoop c c.fuel s).1) (x : St × R Unit) (h : I x.1) : I (afterOpen c rc x).1 := by
  fun_cases afterOpen c rc x
  · exact hd _ _ h  -- the opening callback raised
  · exact h  -- cut
  · exact hd _ _ h  -- it closed the socket
  · exact afterLoop_keeps c rc hd _ (dl _ h)

theorem afterBody_keeps (td : ∀ s, I s → I (teardown c s none).1) (x : St × R Unit) (h : I x.1) :
    I (afterBody c x).1 := by
  rcases x with ⟨s, _ | e | _⟩ <;> simp only [afterBody, gen_finally, ↓reduceIte]
  · exact td s h
  · have t1 := td s h
    generalize teardown c s none = y at t1 ⊢
    rcases y with ⟨s1, _ | e1 | _⟩
    · exact td s1 t1
    · exact rlNext_keeps (fun s => (s, .exc e1)) _ (td s1 t1) fun _ h => h
    · exact t1
  · exact h

end keeps

theorem teardown_Q (c : Cfg) (s : St) (frame : Option Bytes) (h : s.hasDoneTeardown = true) :
    teardown c s frame = (s, .ok ()) := by
  simp [teardown, h]

theorem reconnectLoop_Q (c : Cfg) (n : Nat) (s : St) (h : s.keepRunning = false) :
    reconnectLoop c (n + 1) s = (s, .ok ()) := by
  simp [reconnectLoop, h]

theorem handleDisconnect_running (c : Cfg) (s : St) (e : AExn) (rc : Bool) (hk : s.keepRunning = true) :
    handleDisconnect c s e rc = handleDisconnectBody c s e rc := by
  simp [handleDisconnect, hk]

theorem handleDisconnect_closing (c : Cfg) (s : St) (e : AExn) (rc : Bool) (hk : s.keepRunning = false) (he : e ≠ .ki) :
    handleDisconnect c s e rc = teardown c s none := by
  simp [handleDisconnect, hk, he]

theorem advance_none (c : Cfg) (n : Nat) (s : St) (t : Nat) (h : s.ping = none) :
    advance c n s t = { s with now := max s.now t } := by
  cases n <;> simp [advance, h]

theorem waitUntil_none (c : Cfg) (s : St) (t : Nat) (h : s.ping = none) (ht : t ≤ c.horizon) :
    waitUntil c s t = ({ s with now := max s.now t }, true) := by
  simp [waitUntil, Nat.not_lt.2 ht, advance_none c _ s t h]

theorem checkFails_zero (c : Cfg) (s : St) (h : s.lastPing = 0) : checkFails c s = false := by
  unfold checkFails
  cases c.to <;> simp [h]

/-- what `connect` raises on a dial that fails -/
def dialExn : Dial → AExn
  | .rejected st => .badstatus st
  | _ => .transport

def isFail : Dial → Bool
  | .refused | .rejected _ => true
  | .established _ => false

theorem connect_established (s : St) (evs : List TEv) (ds : List Dial) (h : s.dials = .established evs :: ds) :
    connect s =
      ({ s with dials := ds, nextIdx := s.nextIdx + 1, evs := evs, arr := s.now,
                sock := some { idx := s.nextIdx, connected := true, isOpen := true, dead := false },
                trace := s.trace ++ [(s.now, .dial s.nextIdx)] }, .ok ()) := by
  simp only [connect, h, St.emit]

theorem connect_failed (s : St) (d : Dial) (ds : List Dial) (h : s.dials = d :: ds) (hf : isFail d = true) :
    connect s =
      ({ s with dials := ds, nextIdx := s.nextIdx + 1,
                sock := some { idx := s.nextIdx, connected := false, isOpen := false, dead := false },
                trace := s.trace ++ [(s.now, .dial s.nextIdx), (s.now, .sockClosed s.nextIdx)] }, .exc (dialExn d)) := by
  cases d with
  | established evs => cases hf
  | refused => simp [connect, h, St.emit, dialExn]
  | rejected st => simp [connect, h, St.emit, dialExn]

theorem firstStage_eq (c : Cfg) (s : St) :
    firstStage c s =
      rlNext (fun s => if c.reconnect ≠ 0 then reconnectLoop c c.fuel s else (s, .ok ())) (setSock c s false) := rfl

/-- how `run_forever` leaves its try/except/finally -/
def outcome : St × R Unit → St × Outcome
  | (s, .ok ()) => (s.emit (.returned s.hasErrored), .returned s.hasErrored)
  | (s, .exc e) => (s.emit (.raisedOut e), .raised e)
  | (s, .halt) => (s, .cut)

theorem runForeverO_eq (c : Cfg) (s : St) (hacc : argsAccepted c.iv c.to = true) (hs : s.sock = none) :
    runForeverO c s = outcome (runBody c (prologue s)) := by
  rw [runForeverO, hacc, hs]
  rfl

end WS.Lemmas.App
