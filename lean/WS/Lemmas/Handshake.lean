/-
  WS.Lemmas.Handshake — helper lemmas for C09: what a successful `_validate` of the model implies in
  terms of the Spec's clauses, and the two status tuples.
-/
import WS.Spec.Handshake
import WS.Model.Handshake
namespace WS.Lemmas.Handshake
open WS WS.PyH2 WS.H2 WS.Model.Http WS.Model.Handshake WS.Spec.Handshake

/-- generated tables and shape facts C09 rests on (T): the accept comparison is exact (F7 repaired),
    the headers checked, the status tuples. -/
theorem tables :
    Gen.h2AcceptCaseFold = false ∧
    Gen.headersToCheck = [["upgrade", "websocket"], ["connection", "upgrade"]] ∧
    Gen.redirectStatuses = [301, 302, 303, 307, 308] ∧
    Gen.successStatuses = [301, 302, 303, 307, 308, 101] := ⟨rfl, rfl, rfl, rfl⟩

theorem dictGet_mem {d : Dict} {k v : Str} (h : dictGet d k = some v) : (k, v) ∈ d := by
  unfold dictGet at h
  split at h
  · next kv hf =>
    cases h
    have hk : kv.1 = k := by simpa using List.find?_some hf
    exact hk ▸ (List.mem_of_find?_eq_some hf : (kv.1, kv.2) ∈ d)
  · cases h

theorem dictGetTruthy_mem {d : Dict} {k v : Str} (h : dictGetTruthy d k = some v) : (k, v) ∈ d := by
  unfold dictGetTruthy at h
  split at h
  · next hg =>
    split at h <;> cases h
    exact dictGet_mem hg
  · cases h

theorem carries_of_mem' {st : Option Int} {d : Dict} {name : String} {nm v : Str} {p : Str → Bool}
    (hn : nm = name.toList) (hm : (nm, v) ∈ d) (hp : p v = true) : carries ⟨st, d⟩ name p = true := by
  subst hn
  simp only [carries, List.any_eq_true, Bool.and_eq_true, decide_eq_true_eq]
  exact ⟨_, hm, rfl, hp⟩

theorem carries_of_truthy {st : Option Int} {d : Dict} {name : String} {v : Str} {p : Str → Bool}
    (h : dictGetTruthy d name.toList = some v) (hp : p v = true) : carries ⟨st, d⟩ name p = true :=
  carries_of_mem' rfl (dictGetTruthy_mem h) hp

/-- one round of the loop over `_HEADERS_TO_CHECK`, in the Spec's terms. -/
theorem checkHeaders_cons {st : Option Int} {k v : String} {rest : List (List String)} {d : Dict}
    (h : checkHeaders ([k, v] :: rest) d = true) :
    carries ⟨st, d⟩ k (fun r => (tokens r).contains v.toList) = true ∧ checkHeaders rest d = true := by
  simp only [checkHeaders] at h
  split at h
  · cases h
  · next r hr =>
    split at h
    · next ht => exact ⟨carries_of_truthy hr ht, h⟩
    · cases h

variable {acceptOf : Str → Str} {d : Dict} {key : Str} {subs : List Str} {sp : Option Str}

theorem validate_core (h : validate acceptOf d key subs = (true, sp)) :
    checkHeaders Gen.headersToCheck d = true ∧
    (subs.isEmpty = true ∨ ∃ v, dictGetTruthy d "sec-websocket-protocol".toList = some v ∧
        (subs.map lower).contains (lower v) = true) ∧
    dictGetTruthy d "sec-websocket-accept".toList = some (acceptOf key) := by
  obtain ⟨hexact, -, -, -⟩ := tables
  unfold validate at h
  -- the header names stay opaque: nothing below looks into them
  generalize "sec-websocket-protocol".toList = np at h ⊢
  generalize "sec-websocket-accept".toList = na at h ⊢
  simp only [hexact, Bool.false_eq_true, if_false] at h
  split at h
  · cases h  -- `checkHeaders` fails
  · next hc =>
    refine ⟨by simpa using hc, ?_⟩
    split at h
    · cases h  -- no subprotocol agreed
    · next sub hsub =>
      split at h
      · cases h  -- no accept header
      · next result hacc =>
        split at h
        · next heq =>  -- the accept value fits
          refine ⟨?_, heq ▸ hacc⟩
          split at hsub
          · next hempty => exact .inl hempty  -- none offered
          · split at hsub
            · cases hsub  -- no protocol header
            · next spv hspv =>
              split at hsub
              · next hmem => exact .inr ⟨spv, hspv, hmem⟩  -- one of the offered
              · cases hsub
        · cases h

theorem validate_established (h : validate acceptOf d key subs = (true, sp)) :
    established acceptOf ⟨some 101, d⟩ key subs = true := by
  obtain ⟨hc, hsub, hacc⟩ := validate_core h
  obtain ⟨-, hchecked, -, -⟩ := tables
  rw [hchecked] at hc
  obtain ⟨hupgrade, hc⟩ := checkHeaders_cons (st := some 101) hc
  obtain ⟨hconnection, -⟩ := checkHeaders_cons (st := some 101) hc
  have haccept : clAccept acceptOf ⟨some 101, d⟩ key = true := carries_of_truthy hacc (decide_eq_true rfl)
  have hsubprotocol : clSubprotocol ⟨some 101, d⟩ subs = true := by
    unfold clSubprotocol
    rcases hsub with he | ⟨v, hv, hcont⟩
    · rw [he, Bool.true_or]
    · rw [carries_of_truthy hv, Bool.or_true]
      simpa only [List.any_eq_true, List.contains_eq_mem, List.mem_map, decide_eq_true_eq] using hcont
  simp only [established, clUpgrade, clConnection, hupgrade, hconnection, haccept, hsubprotocol]
  rfl

/-- the statuses `_get_resp_headers` lets through are the redirects and 101. -/
theorem status_101 {st : Int} (h1 : statusIn (some st) Gen.successStatuses = true)
    (h2 : statusIn (some st) Gen.redirectStatuses = false) : st = 101 := by
  have hs : Gen.successStatuses = Gen.redirectStatuses ++ [101] := rfl
  simp only [statusIn] at h1 h2
  rw [hs, List.any_append, h2] at h1
  simpa [eq_comm] using h1

theorem redirect_eq {st : Int} :
    statusIn (some st) Gen.redirectStatuses = Spec.Handshake.isRedirect (some st) := by
  obtain ⟨-, -, hredirect, -⟩ := tables
  rw [hredirect]
  simp only [statusIn, isRedirect, List.any_cons, List.any_nil, Bool.or_false, Option.some.injEq, Int.ofNat_eq_natCast,
    Int.cast_ofNat_Int, eq_comm (a := st), Bool.or_assoc]

end WS.Lemmas.Handshake
