/-
  WS.Lemmas.Py — facts about the string helpers of WS.Base.Py (split / join).
  The central one, `suffix_splitOn_iff`, is what "on a label boundary" means for
  `endswith`: the pieces of `n` are a suffix of the pieces of `s` exactly when `s = n` or
  `s` ends with the separator followed by `n`.
-/
import WS.Base.Py
namespace WS.Lemmas.Py
open WS.Py

theorem not_mem_of_all {α : Type} {p : α → Bool} {s : List α} {c : α} (h : s.all p = true) (hc : p c = false) :
    c ∉ s :=
  fun hm => Bool.false_ne_true (hc ▸ List.all_eq_true.mp h c hm)

theorem natStr_digits (n : Nat) : ∀ c ∈ natStr n, c.isDigit = true := by
  intro c hc
  unfold natStr at hc
  rw [Nat.toList_repr] at hc
  exact Nat.isDigit_of_mem_toDigits (by decide) (by decide) hc

theorem consHead_ne_nil (x : Char) (l : List Str) : consHead x l ≠ [] := by
  cases l <;> simp [consHead]

theorem splitOn_ne_nil (c : Char) (s : Str) : splitOn c s ≠ [] := by
  cases s with
  | nil => simp [splitOn]
  | cons x xs =>
    simp only [splitOn]
    split
    · simp
    · exact consHead_ne_nil x _

theorem consHead_append (x : Char) {l : List Str} (h : l ≠ []) (m : List Str) :
    consHead x (l ++ m) = consHead x l ++ m := by
  cases l with
  | nil => exact absurd rfl h
  | cons p ps => simp [consHead]

theorem splitOn_append_sep (c : Char) (a b : Str) :
    splitOn c (a ++ c :: b) = splitOn c a ++ splitOn c b := by
  induction a with
  | nil => simp [splitOn]
  | cons x xs ih =>
    simp only [List.cons_append, splitOn]
    split
    · simp [ih]
    · rw [ih, consHead_append x (splitOn_ne_nil c xs)]

theorem splitOn_notin (c : Char) (s : Str) (h : c ∉ s) : splitOn c s = [s] := by
  induction s with
  | nil => rfl
  | cons x xs ih =>
    have hx : x ≠ c := fun e => h (by simp [e])
    have hxs : c ∉ xs := fun e => h (by simp [e])
    simp [splitOn, hx, ih hxs, consHead]

theorem joinWith_consHead (c x : Char) {l : List Str} (h : l ≠ []) :
    joinWith c (consHead x l) = x :: joinWith c l := by
  match l, h with
  | [p], _ => simp [consHead, joinWith]
  | p :: q :: r, _ => simp [consHead, joinWith]

theorem joinWith_nil_cons (c : Char) {l : List Str} (h : l ≠ []) :
    joinWith c ([] :: l) = c :: joinWith c l := by
  match l, h with
  | q :: r, _ => simp [joinWith]

theorem joinWith_splitOn (c : Char) (s : Str) : joinWith c (splitOn c s) = s := by
  induction s with
  | nil => simp [splitOn, joinWith]
  | cons x xs ih =>
    simp only [splitOn]
    split
    · next h => rw [joinWith_nil_cons c (splitOn_ne_nil c xs), ih, h]
    · rw [joinWith_consHead c x (splitOn_ne_nil c xs), ih]

theorem joinWith_append (c : Char) {a b : List Str} (ha : a ≠ []) (hb : b ≠ []) :
    joinWith c (a ++ b) = joinWith c a ++ c :: joinWith c b := by
  induction a with
  | nil => exact absurd rfl ha
  | cons p ps ih =>
    cases ps with
    | nil =>
      match b, hb with
      | q :: r, _ => simp [joinWith]
    | cons p' ps' =>
      have := ih (by simp)
      simp only [List.cons_append, joinWith] at this ⊢
      rw [this]
      simp

theorem suffix_splitOn_iff (c : Char) (n s : Str) :
    splitOn c n <:+ splitOn c s ↔ (s = n ∨ (c :: n) <:+ s) := by
  constructor
  · rintro ⟨t, ht⟩
    have hj : joinWith c (t ++ splitOn c n) = s := by rw [ht, joinWith_splitOn]
    by_cases htn : t = []
    · subst htn
      exact .inl (by simpa [joinWith_splitOn] using hj.symm)
    · right
      rw [joinWith_append c htn (splitOn_ne_nil c n), joinWith_splitOn] at hj
      exact ⟨joinWith c t, hj⟩
  · rintro (rfl | ⟨pre, hp⟩)
    · exact List.suffix_refl _
    · subst hp
      rw [splitOn_append_sep]
      exact List.suffix_append _ _

theorem isSuffixOf_splitOn_eq (c : Char) (n s : Str) :
    (splitOn c n).isSuffixOf (splitOn c s) = (s == n || (c :: n).isSuffixOf s) := by
  rw [Bool.eq_iff_iff]
  simp only [List.isSuffixOf_iff_suffix, Bool.or_eq_true, beq_iff_eq]
  exact suffix_splitOn_iff c n s

end WS.Lemmas.Py
