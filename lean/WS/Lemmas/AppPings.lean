/-
  WS.Lemmas.AppPings — every ping frame the application model writes carries the configured payload: the invariant
  `PP` (all `wrote PING p` events of the trace have `p = c.payload`) through every function of `run_forever`.
-/
import WS.Lemmas.AppInv
namespace WS.Lemmas.App
open WS WS.Model.App

def PP (c : Cfg) (s : St) : Prop := ∀ te ∈ s.trace, okEv c te.2

theorem pp_emit {c : Cfg} {s : St} (e : Ev) (h : PP c s) (he : okEv c e) : PP c (s.emit e) := by
  intro te hte
  simp only [St.emit, List.mem_append, List.mem_singleton] at hte
  rcases hte with hte | hte
  · exact h te hte
  · subst hte
    exact he

theorem pp_low {c : Cfg} {s s' : St} (h : Low c s s') (hs : PP c s) : PP c s' := by
  induction h with
  | silent h => exact fun te hte => hs te (h.tr ▸ hte)
  | trans _ _ h1 h2 => exact h2 (h1 hs)
  | emit s _ he => exact pp_emit _ hs he
  | pingStop _ => exact pp_emit _ hs nofun
  | sockClosed _ _ => exact pp_emit _ hs nofun
  | sockDropped _ _ => exact pp_emit _ hs nofun
  | forget _ _ => exact hs

theorem pp_callback (c : Cfg) (s : St) (cb : Cb) (args : List Arg) (h : PP c s) : PP c (callback c s cb args).1 :=
  callback_keeps c cb args (fun _ h => pp_emit _ h nofun) (fun _ _ h => pp_emit _ h nofun) (fun _ _ l h => pp_low l h) s h

theorem pp_teardown (c : Cfg) (s : St) (frame : Option Bytes) (h : PP c s) : PP c (teardown c s frame).1 := by
  rcases teardown_step c s frame with ⟨_, e⟩ | ⟨s1, s2, l1, _, l2, e | ⟨_, e⟩⟩ <;> rw [e]
  · exact h
  · -- `l1`, `l2` start at flag updates of `s`, `s1`: the same traces, hence the same `PP` (by unfolding; `(… :)` delays that)
    exact pp_low l2 (pp_low l1 h :)
  · exact pp_callback c _ _ _ (pp_low l2 (pp_low l1 h :))

theorem pp_handleDisconnect (c : Cfg) (s : St) (e : AExn) (rc : Bool) (h : PP c s) :
    PP c (handleDisconnect c s e rc).1 := by
  unfold handleDisconnect
  split
  · exact pp_teardown c s none h
  · exact handleDisconnectBody_keeps c s e rc (pp_low (low_stopPing c { s with hasErrored := true }) h)
      (fun s => pp_callback c s _ _) fun s => pp_teardown c s none

theorem pp_read (c : Cfg) (s : St) (h : PP c s) : PP c (Model.App.read c s).1 := by
  obtain ⟨s1, l, e⟩ := read_step c s
  have h1 := pp_low l h
  generalize Model.App.read c s = x at e ⊢
  cases e with
  | cut => exact h1
  | exc _ => exact h1
  | call _ _ =>
    rw [asRead_fst]
    exact pp_callback c _ _ _ h1
  | msg =>
    rw [asRead_fst]
    exact deliverMessage_keeps c (pp_callback c) _ _ _ _ h1
  | closed =>
    rw [asRead_fst]
    exact pp_teardown c _ _ h1

theorem pp_dispLoop (c : Cfg) (n : Nat) : ∀ s, PP c s → PP c (dispLoop c n s).1 := by
  -- strong induction: `fun_cases` below splits `n` itself
  induction n using Nat.strongRecOn with | _ n ih => ?_
  intro s h
  have l := low_select c s
  fun_cases dispLoop c n s
  · exact pp_emit _ h nofun  -- out of fuel
  · exact h  -- loop condition off
  · exact h  -- TLS and no socket
  · exact pp_low (l.of_eq ‹_›) h  -- cut in `select`
  · refine afterRead_keeps c _ _ ?_ (ih _ (Nat.lt_succ_self _))
    split  -- readable, or timed out
    · exact pp_read c _ (pp_low (l.of_eq ‹_›) h)
    · exact pp_low (l.of_eq ‹_›) h

theorem pp_setSock (c : Cfg) (s : St) (rc : Bool) (h : PP c s) : PP c (setSock c s rc).1 := by
  unfold setSock
  obtain ⟨w, -, l, -⟩ := connect_step c (release s rc)
  have h1 := pp_low l (pp_emit _ (pp_low (low_release c s rc) h :) nofun)
  generalize connect (release s rc) = x at h1 ⊢
  fun_cases afterConnect c rc x
  · exact pp_handleDisconnect c _ _ rc h1  -- the dial failed
  · exact h1  -- cut
  · refine afterOpen_keeps c rc (fun s e => pp_handleDisconnect c s e rc) (pp_dispLoop c c.fuel) _ (pp_callback c _ _ _ ?_)
    split  -- keepalive on: `startPing` logs its event
    · exact pp_emit _ h1 nofun
    · exact h1

theorem pp_reconnectLoop (c : Cfg) : ∀ (n : Nat) (s : St), PP c s → PP c (reconnectLoop c n s).1 := by
  intro n
  induction n with
  | zero =>
    intro s h
    exact pp_emit _ h nofun
  | succ m ih =>
    intro s h
    rcases reconnectLoop_step c m s with ⟨_, e⟩ | ⟨s2, _, l, e | e⟩ <;> rw [e]
    · exact h
    · exact pp_low l h
    · exact rlNext_keeps _ _ (pp_setSock c s2 true (pp_low l h)) ih

theorem pp_runBody (c : Cfg) (s : St) (h : PP c s) : PP c (runBody c s).1 := by
  unfold runBody
  apply afterBody_keeps c fun s => pp_teardown c s none
  rw [firstStage_eq]
  refine rlNext_keeps _ _ (pp_setSock c s false h) fun s1 h1 => ?_
  split
  · exact pp_reconnectLoop c c.fuel s1 h1
  · exact h1

theorem pp_runForever (c : Cfg) (s0 : St) (h : PP c s0) : PP c (runForever c s0) := by
  unfold runForever runForeverO
  cases argsAccepted c.iv c.to with
  | false => exact pp_emit _ h nofun
  | true =>
    cases s0.sock.isSome with
    | true => exact pp_emit _ h nofun
    | false =>
      have jb := pp_runBody c (prologue s0) h
      generalize runBody c (prologue s0) = x at jb ⊢
      obtain ⟨s1, r1⟩ := x
      cases r1 with
      | halt => exact jb
      | ok u =>
        cases u
        exact pp_emit _ jb nofun
      | exc e => exact pp_emit _ jb nofun

theorem pp_runMany (c : Cfg) : ∀ (ws : List (List Dial)) (s : St), PP c s → PP c (runMany c ws s) := by
  intro ws s h
  fun_induction runMany c ws s with
  | case1 => exact h
  | case2 _ _ _ ih => exact ih (pp_runForever c _ h)

theorem pp_runManyK (c : Cfg) (ws : List ((Int × Option Int) × List Dial)) (s : St) (h : PP c s) : PP c (runManyK c ws s) := by
  fun_induction runManyK c ws s with
  | case1 => exact h
  | case2 iv to _ _ _ ih => exact ih (pp_runForever { c with iv := iv, to := to } _ h)

end WS.Lemmas.App
