/-
  WS.Lemmas.AppInv — the low-level layer of `run_forever` (time, ping thread, transport, closing handshake) as a relation:
  `Low c s s'` = `s'` is reached from `s` by the elementary steps that layer is made of.  Each function of the layer is shown
  once to be such a sequence (`low_…`); invariants are checked on the steps, not on the functions.  One level up, `read()`,
  teardown, the reconnect loop and `connect` are such steps around one of a few ends or one dial (`…_step`).
-/
import WS.Lemmas.AppBasic
import WS.Spec.AppTrace
namespace WS.Lemmas.App
open WS WS.Model.App

/-- callback events of a trace (name and arguments) -/
def cbsOf (tr : Trace) : List (Cb × List Arg) :=
  tr.filterMap fun te => match te.2 with | .cb c a => some (c, a) | _ => none

def cbs (s : St) : List (Cb × List Arg) := cbsOf s.trace

theorem cbsOf_append (a b : Trace) : cbsOf (a ++ b) = cbsOf a ++ cbsOf b := by simp [cbsOf]

@[simp] theorem cbs_emit_cb (s : St) (c : Cb) (a : List Arg) : cbs (s.emit (.cb c a)) = cbs s ++ [(c, a)] := by
  simp [cbs, cbsOf, St.emit]

theorem cbs_emit_other (s : St) (e : Ev) (h : ∀ c a, e ≠ .cb c a) : cbs (s.emit e) = cbs s := by
  rw [cbs, St.emit, cbsOf_append]
  cases e <;> first | exact List.append_nil _ | exact absurd rfl (h _ _)

/-- what a user callback and the low-level layer leave alone (a callback may call close(), which clears `keep_running` and
    runs that layer); without a ping thread, zeroed `last_ping_tm` / `last_pong_tm` stay zeroed.
    Every field defaults to "untouched". -/
structure Mono (s s' : St) : Prop where
  hdt : s'.hasDoneTeardown = s.hasDoneTeardown := by exact rfl
  he : s'.hasErrored = s.hasErrored := by exact rfl
  off : s.keepRunning = false → s'.keepRunning = false := by exact id
  pn : s.ping = none → s'.ping = none := by exact id
  sn : s.sock = none → s'.sock = none := by exact id
  zl : s.ping = none → s.lastPing = 0 → s.lastPong = 0 → s'.lastPing = 0 ∧ s'.lastPong = 0 := by
    exact fun _ a b => ⟨a, b⟩

theorem Mono.trans {a b c : St} (h1 : Mono a b) (h2 : Mono b c) : Mono a c :=
  ⟨h2.hdt.trans h1.hdt, h2.he.trans h1.he, fun h => h2.off (h1.off h), fun h => h2.pn (h1.pn h), fun h => h2.sn (h1.sn h),
   fun p x y => let ⟨q, r⟩ := h1.zl p x y; h2.zl (h1.pn p) q r⟩

/-- what the low-level layer leaves alone: moreover the loop condition and the callbacks logged -/
structure Frame (s s' : St) : Prop extends Mono s s' where
  kr : s'.keepRunning = s.keepRunning := by exact rfl
  cb : cbs s' = cbs s := by exact rfl
  off := fun h => kr.trans h

theorem Frame.trans {a b c : St} (h1 : Frame a b) (h2 : Frame b c) : Frame a c :=
  { h1.toMono.trans h2.toMono with kr := h2.kr.trans h1.kr, cb := h2.cb.trans h1.cb }

/-- a step that moreover appends nothing, neither closes nor drops the socket and does not end the ping thread.  The clock,
    the schedule, the pending events, the dial list and the counters are left free (`Low.time`): `Low` says nothing of them. -/
structure Silent (s s' : St) : Prop extends Frame s s' where
  tr : s'.trace = s.trace := by exact rfl
  sk : s'.sock.map (·.isOpen) = s.sock.map (·.isOpen) := by exact rfl
  pg : s'.ping.isSome = s.ping.isSome := by exact rfl
  cb := congrArg cbsOf tr
  pn := fun h => by simpa [h] using pg
  sn := fun h => by simpa [h] using sk

def okEv (c : Cfg) (e : Ev) : Prop := ∀ p, e = .wrote Gen.opcodePing p → p = c.payload

/-- events that are neither a callback nor one of the five by which transports and ping threads are counted -/
def plain : Ev → Bool
  | .cb _ _ | .dial _ | .sockClosed _ | .sockDropped _ | .pingStart | .pingStop => false
  | _ => true

/-- the elementary steps of the low-level layer, closed under sequencing -/
inductive Low (c : Cfg) : St → St → Prop
  | silent {s s' : St} : Silent s s' → Low c s s'
  | trans {a b d : St} : Low c a b → Low c b d → Low c a d
  | emit (s : St) {e : Ev} : plain e = true → okEv c e → Low c s (s.emit e)
  | pingStop {s : St} {p : PingTh} : s.ping = some p → Low c s (({ s with ping := none } : St).emit .pingStop)
  | sockClosed {s : St} {w : WSock} : s.sock = some w → w.isOpen = true →
      Low c s (({ s with sock := some { w with isOpen := false, connected := false } } : St).emit (.sockClosed w.idx))
  | sockDropped {s : St} {w : WSock} : s.sock = some w → w.isOpen = true →
      Low c s (({ s with sock := none } : St).emit (.sockDropped w.idx))
  | forget {s : St} {w : WSock} : s.sock = some w → w.isOpen = false → Low c s { s with sock := none }

theorem close_ne_ping : Gen.opcodeClose ≠ Gen.opcodePing := by decide
theorem pong_ne_ping : Gen.opcodePong ≠ Gen.opcodePing := by decide

namespace Low
variable {c : Cfg}

theorem refl {s : St} : Low c s s := .silent {}

theorem time {s : St} {t : Nat} {l : List Bool} {evs : List TEv} {a : Nat} {ds : List Dial} {i : Nat} :
    Low c s { s with now := t, sched := l, evs := evs, arr := a, dials := ds, nextIdx := i } :=
  .silent {}

theorem rearmed {s : St} {p p' : PingTh} (hp : s.ping = some p) : Low c s { s with ping := some p' } :=
  .silent { pg := by simp [hp] }

theorem stamped {s : St} {p : PingTh} {a : Nat} (hp : s.ping = some p) : Low c s { s with lastPing := a } :=
  .silent { zl := fun h => by rw [hp] at h; cases h }

theorem unstamped {s : St} : Low c s { s with lastPing := 0, lastPong := 0 } :=
  .silent { zl := fun _ _ _ => ⟨rfl, rfl⟩ }

theorem ponged {s : St} : Low c s { s with lastPong := pongStamp s } :=
  .silent { zl := fun _ a b => ⟨a, by simp [pongStamp, a, b]⟩ }

theorem flagged {s : St} {w : WSock} {cn dd : Bool} (hs : s.sock = some w) :
    Low c s { s with sock := some { w with connected := cn, dead := dd } } :=
  .silent { sk := by simp [hs] }

theorem mapped {s : St} {f : WSock → WSock} (hf : ∀ w, (f w).isOpen = w.isOpen) : Low c s { s with sock := s.sock.map f } :=
  .silent { sk := by cases s.sock <;> simp [hf] }

theorem wrote (s : St) {op : Nat} {p : Bytes} (h : op = Gen.opcodePing → p = c.payload) : Low c s (s.emit (.wrote op p)) :=
  .emit s rfl fun _ e => by cases e; exact h rfl

theorem sent {s : St} {op : Nat} {p : Bytes} (h : op = Gen.opcodePing → p = c.payload) :
    Low c s (if s.writable then s.emit (.wrote op p) else s) := by
  split
  · exact .wrote s h
  · exact .refl

/-- the low-level part of `handleEv` on a close frame -/
theorem closeSeen {s : St} :
    Low c s (let s1 : St := { s with sock := s.sock.map fun w => { w with connected := false } }
      if s1.writable then s1.emit (.wrote Gen.opcodeClose (beN 2 Gen.statusNormal)) else s1) :=
  .trans (.mapped (f := fun w => { w with connected := false }) fun _ => rfl)
    (.sent (op := Gen.opcodeClose) fun h => absurd h close_ne_ping)

/-- the steps up to the state in which a function returned a pair -/
theorem of_eq {β : Type} {s s1 : St} {x : St × β} {b : β} (l : Low c s x.1) (h : x = (s1, b)) : Low c s s1 := by
  subst h
  exact l

end Low

section
variable {c : Cfg} {s : St}

theorem low_pingFire {p : PingTh} (hp : s.ping = some p) : Low c s (pingFire c s p) := by
  have h0 : Low c s { s with now := max s.now p.wake } := .time
  fun_cases pingFire c s p
  · exact h0.trans (.pingStop hp)  -- loop condition off: the thread exits
  · exact h0.trans (.rearmed hp)  -- first wake: no ping
  · -- `s2`: `last_ping_tm` stamped and the ping written, if there is a socket and it takes the frame
    rename_i s1 _ _ s2
    have stamp : Low c s1 s2 ∧ s2.ping = some p := by
      unfold s2
      split
      · simp only []
        split
        · exact ⟨.trans (.stamped hp) (.wrote _ fun _ => rfl), hp⟩
        · exact ⟨.stamped hp, hp⟩  -- not writable
      · exact ⟨.refl, hp⟩  -- no socket
    exact h0.trans (stamp.1.trans (.rearmed stamp.2))

theorem low_advance {n t : Nat} : Low c s (advance c n s t) := by
  fun_induction advance c n s t with
  | case3 _ _ _ _ hp _ ih => exact (low_pingFire hp).trans ih  -- a wake before `t`
  | case4 _ _ _ hp _ _ _ ih =>  -- a wake at `t` that the schedule puts first
    exact Low.time.trans (.trans (low_pingFire (by exact hp)) ih)
  | _ => exact .time  -- no wake: clock and schedule only

theorem low_waitUntil {t : Nat} : Low c s (waitUntil c s t).1 := by
  fun_cases waitUntil c s t
  · exact Low.time.trans (low_advance.trans (.emit _ rfl nofun))
  · exact low_advance

theorem low_stopPing (c : Cfg) (s : St) : Low c s (stopPing s) := by
  unfold stopPing
  cases hp : s.ping with
  | none => exact .unstamped
  | some p => exact (Low.pingStop hp).trans .unstamped

theorem low_closeTransport (c : Cfg) {s : St} : Low c s (closeTransport s) := by
  fun_cases closeTransport s
  · exact .sockClosed ‹_› ‹_›  -- open
  · exact .flagged ‹_›  -- released already
  · exact .refl  -- no socket

theorem low_dropSock (c : Cfg) {s : St} : Low c s (dropSock s) := by
  fun_cases dropSock s
  · exact .sockDropped ‹_› ‹_›  -- open
  · exact .forget ‹_› (Bool.eq_false_iff.2 ‹_›)  -- released already
  · exact .refl  -- no socket

/-- cases in the order of the definition: nothing left to read (wait out the timeout, or it has passed); the next frame in
    time (cut, close, eof, reset, protocol error, any other: skipped); the next frame too late; timeout passed -/
theorem low_closeWait {start : Nat} {evs : List TEv} : Low c s (closeWait c start evs s).1 := by
  fun_induction closeWait c start evs s with
  | case2 | case10 => exact .refl
  | case1 | case3 | case9 => exact low_waitUntil.of_eq ‹_›
  | case4 | case7 => exact (low_waitUntil.of_eq ‹_›).trans .time
  | case5 => exact ((low_waitUntil.of_eq ‹_›).trans .time).trans (low_closeTransport c)
  | case6 => exact ((low_waitUntil.of_eq ‹_›).trans .time).trans (.mapped fun _ => rfl)
  | case8 =>
    rename_i ih
    exact ((low_waitUntil.of_eq ‹_›).trans .time).trans ih

theorem low_wsClose : Low c s (wsClose c s).1 := by
  have sent {s : St} : Low c s (s.emit (.wrote Gen.opcodeClose (beN 2 Gen.statusNormal))) :=
    .wrote _ fun h => absurd h close_ne_ping
  fun_cases wsClose c s
  · exact .refl  -- no socket
  · exact .refl  -- not connected
  · exact (Low.flagged ‹_›).trans (sent.trans (low_closeWait.of_eq ‹_›))  -- cut in the wait
  · exact (Low.flagged ‹_›).trans (sent.trans ((low_closeWait.of_eq ‹_›).trans (low_closeTransport c)))
  · exact (Low.flagged ‹_›).trans (low_closeTransport c)  -- not writable: no handshake

theorem low_closeSock : Low c s (closeSock c s).1 := by
  fun_cases closeSock c s
  · exact .refl  -- no socket
  · exact low_wsClose.of_eq ‹_›  -- cut in `close()`
  · exact (low_wsClose.of_eq ‹_›).trans (low_dropSock c)

theorem low_select (c : Cfg) (s : St) : Low c s (select c s).1 := by
  fun_cases select c s
  · exact .refl  -- decrypted data pending
  · exact .refl  -- readable
  · exact low_waitUntil.of_eq ‹_›  -- cut in the wait
  · exact low_waitUntil.of_eq ‹_›  -- waited

theorem low_release (c : Cfg) (s : St) (rc : Bool) : Low c s (release s rc) := by
  fun_cases release s rc
  · exact low_closeTransport c  -- reconnecting, a socket left
  · exact .refl  -- reconnecting, none left
  · exact .refl  -- first connection

end

theorem Low.frame {c : Cfg} {s s' : St} (h : Low c s s') : Frame s s' := by
  induction h with
  | silent h => exact h.toFrame
  | trans _ _ h1 h2 => exact h1.trans h2
  | emit s hp _ => exact { cb := cbs_emit_other _ _ (by rintro _ _ rfl; cases hp) }
  | pingStop hp =>
    exact { cb := cbs_emit_other _ _ (by intros; simp), pn := fun _ => rfl,
            zl := fun h => by rw [h] at hp; cases hp }
  | sockClosed hs _ =>
    exact { cb := cbs_emit_other _ _ (by intros; simp), sn := fun h => by rw [h] at hs; cases hs }
  | sockDropped hs _ => exact { cb := cbs_emit_other _ _ (by intros; simp), sn := fun _ => rfl }
  | forget hs _ => exact { sn := fun _ => rfl }

theorem frame_waitUntil (c : Cfg) (s : St) (t : Nat) : Frame s (waitUntil c s t).1 := low_waitUntil.frame

theorem appClose_frame (c : Cfg) (s : St) : Frame { s with keepRunning := false } (appClose c s).1 :=
  low_closeSock.frame

theorem stopPing_zeroed (s : St) : (stopPing s).ping = none ∧ (stopPing s).lastPing = 0 ∧ (stopPing s).lastPong = 0 := by
  unfold stopPing
  cases hp : s.ping <;> simp [hp, St.emit]

theorem dropSock_sock (s : St) : (dropSock s).sock = none := by
  fun_cases dropSock s
  · rfl  -- open
  · rfl  -- released already
  · assumption  -- no socket

theorem closeSock_sock (c : Cfg) (s : St) : (closeSock c s).2 = true → (closeSock c s).1.sock = none := by
  fun_cases closeSock c s
  · exact fun _ => ‹_›  -- no socket
  · exact nofun  -- cut in `close()`
  · exact fun _ => dropSock_sock _

theorem appClose_sock (c : Cfg) (s : St) (h : (appClose c s).2 = true) : (appClose c s).1.sock = none :=
  closeSock_sock c _ h

/-- `ent`: the user function is entered; `rep`: on_error is entered with the callback's own exception; `low`: a user function
    that calls close() clears `keep_running` and runs the low-level layer -/
theorem callback_keeps {I : St → Prop} (c : Cfg) (cb : Cb) (args : List Arg) (ent : ∀ s, I s → I (entered s cb args))
    (rep : ∀ s k, I s → I (entered s .onError [.exn (.user cb k)]))
    (low : ∀ s s', Low c { s with keepRunning := false } s' → I s → I s') (s : St) (h : I s) :
    I (callback c s cb args).1 := by
  have raw : ∀ s cb args, I (entered s cb args) → I (rawCall c s cb args).1 := by
    intro s cb args h
    rcases rawCall_fst c s cb args with e | e <;> rw [e]
    · exact h
    · exact low _ _ low_closeSock h
  rcases callback_fst c s cb args with e | e | e <;> rw [e]
  · exact h
  · exact raw _ _ _ (ent s h)
  · exact raw _ _ _ (rep _ _ (raw _ _ _ (ent s h)))

theorem callback_mono (c : Cfg) (s : St) (cb : Cb) (args : List Arg) : Mono s (callback c s cb args).1 :=
  callback_keeps (I := Mono s) c cb args (fun _ h => h.trans {}) (fun _ _ h => h.trans {})
    (fun _ _ l h => h.trans { l.frame.toMono with off := fun _ => l.frame.kr }) s {}

/-- `w`: the transport the dial opens (a failed attempt closes it again) -/
theorem connect_step (c : Cfg) (s : St) :
    ∃ w, w.isOpen = true ∧ Low c (({ s with sock := some w } : St).emit (.dial s.nextIdx)) (connect s).1 ∧
      ((∃ e, (connect s).2 = .exc e ∧ Spec.AppTrace.AExn.isUser e = false) ∨ (connect s).2 = .ok ()) := by
  refine ⟨{ idx := s.nextIdx, connected := false, isOpen := true, dead := false }, rfl, ?_⟩
  unfold connect
  simp only []
  split
  · exact ⟨.trans (.sockClosed rfl rfl) .time, .inl ⟨_, rfl, rfl⟩⟩  -- refused
  · exact ⟨.trans (.sockClosed rfl rfl) .time, .inl ⟨_, rfl, rfl⟩⟩  -- rejected
  · exact ⟨.trans (.flagged (cn := true) (dd := false) rfl) .time, .inr rfl⟩  -- established

/-- how `read()` ends once the low-level layer has brought the state to `s` -/
inductive ReadEnd (c : Cfg) (s : St) : St × R Bool → Prop
  | cut : ReadEnd c s (s, .halt)
  | exc {e : AExn} : Spec.AppTrace.AExn.isUser e = false → ReadEnd c s (s, .exc e)
  | call {cb : Cb} {a : List Arg} : cb ≠ .onClose → cb ≠ .onError → ReadEnd c s (asRead true (callback c s cb a))
  | msg {op : Nat} {p : Bytes} {frag : Bool} : ReadEnd c s (asRead true (deliverMessage c s op p frag))
  | closed {frame : Option Bytes} : ReadEnd c s (asRead false (teardown c s frame))

abbrev ReadStep (c : Cfg) (s : St) (x : St × R Bool) : Prop := ∃ s1, Low c s s1 ∧ ReadEnd c s1 x

theorem handleEv_step (c : Cfg) {s0 s : St} (l : Low c s0 s) (ev : SrvEv) : ReadStep c s0 (handleEv c s ev) := by
  cases ev with
  | part => exact ⟨_, l, .cut⟩
  | message op p frag => exact ⟨_, l, .msg⟩
  | ping p => exact ⟨_, l.trans (.sent fun h => absurd h pong_ne_ping), .call nofun nofun⟩
  | pong p => exact ⟨_, l.trans .ponged, .call nofun nofun⟩
  | close body =>
    simp only [handleEv, gen_closeToTeardown, ↓reduceIte]
    exact ⟨_, l.trans .closeSeen, .closed⟩
  | eof => exact ⟨_, l.trans (low_closeTransport c), .exc rfl⟩
  | reset => exact ⟨_, l.trans (.mapped (f := fun w => { w with dead := true }) fun _ => rfl), .exc rfl⟩
  | protoError => exact ⟨_, l, .exc rfl⟩
  | payloadError => exact ⟨_, l, .exc rfl⟩

theorem readEvents_step (c : Cfg) (evs : List TEv) {s0 s : St} (l : Low c s0 s) : ReadStep c s0 (readEvents c evs s) := by
  -- the head event has arrived, or is waited for
  have arrive : ∀ {s s1 : St} {t : Nat} {ok : Bool}, (if t ≤ s.now then (s, true) else waitUntil c s t) = (s1, ok) →
      Low c s s1 := by
    intro s s1 t ok h
    split at h
    · cases h
      exact .refl
    · exact low_waitUntil.of_eq h
  fun_induction readEvents c evs s with
  | case1 => exact ⟨_, l.trans (low_waitUntil.of_eq ‹_›), .cut⟩  -- nothing will arrive
  | case2 => exact ⟨_, l.trans (arrive ‹_›), .cut⟩  -- cut in the wait
  | case3 =>  -- a `part`: read on
    rename_i ih
    exact ih ((l.trans (arrive ‹_›)).trans .time)
  | case4 => exact handleEv_step c ((l.trans (arrive ‹_›)).trans .time) _

theorem read_step (c : Cfg) (s : St) : ReadStep c s (Model.App.read c s) := by
  fun_cases Model.App.read c s
  · exact ⟨_, .refl, .closed⟩  -- loop condition off
  · exact ⟨_, .refl, .exc rfl⟩  -- no socket
  · exact readEvents_step c s.evs .refl

/-- teardown: nothing when done before; else the flag, the ping thread stopped (`s1`), the loop condition cleared, the socket
    closed and dropped (`s2`) — unless the model is cut in the closing handshake — and on_close -/
theorem teardown_step (c : Cfg) (s : St) (frame : Option Bytes) :
    (s.hasDoneTeardown = true ∧ teardown c s frame = (s, .ok ())) ∨
    ∃ s1 s2, Low c { s with hasDoneTeardown := true } s1 ∧
      (s1.ping = none ∧ s1.lastPing = 0 ∧ s1.lastPong = 0) ∧ Low c { s1 with keepRunning := false } s2 ∧
      (teardown c s frame = (s2, .halt) ∨
       (s2.sock = none ∧ teardown c s frame = callback c s2 .onClose (closeArgs c frame))) := by
  fun_cases teardown c s frame
  · exact .inl ⟨by simpa using ‹_›, rfl⟩  -- done before
  · exact .inr ⟨_, _, low_stopPing c _, stopPing_zeroed _, low_wsClose.of_eq ‹_›, .inl rfl⟩  -- cut in `close()`
  · exact .inr ⟨_, _, low_stopPing c _, stopPing_zeroed _, (low_wsClose.of_eq ‹_›).trans (low_dropSock c),
      .inr ⟨dropSock_sock _, rfl⟩⟩

theorem reconnectLoop_step (c : Cfg) (n : Nat) (s : St) :
    (s.keepRunning = false ∧ reconnectLoop c (n + 1) s = (s, .ok ())) ∨
    ∃ s2, s.keepRunning = true ∧ Low c s s2 ∧ (reconnectLoop c (n + 1) s = (s2, .halt) ∨
      reconnectLoop c (n + 1) s = rlNext (reconnectLoop c n) (setSock c s2 true)) := by
  rw [reconnectLoop]
  cases hk : s.keepRunning with
  | false => exact .inl ⟨rfl, rfl⟩
  | true =>
    simp only [Bool.not_true, Bool.false_eq_true, ↓reduceIte]
    have l := (Low.emit (c := c) s (e := .sleep c.reconnect) rfl nofun).trans
      (low_waitUntil (t := (s.emit (.sleep c.reconnect)).now + c.reconnect))
    generalize waitUntil c _ _ = x at l ⊢
    obtain ⟨s2, ok⟩ := x
    cases ok with
    | false => exact .inr ⟨s2, trivial, l, .inl rfl⟩
    | true => exact .inr ⟨s2, trivial, l, .inr rfl⟩

end WS.Lemmas.App
