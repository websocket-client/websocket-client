/-
  WS.Lemmas.AppKA — keepalive WITHOUT a ping timeout does not interfere with the run: project away the ping thread
  (its state, its stamps, its schedule, its trace events) and the run with `ping_interval = iv` IS the run with
  `ping_interval = 0`, function by function.  `P (f c s) = f c₀ (P s)`.
-/
import WS.Lemmas.AppBasic
namespace WS.Lemmas.App.KA
open WS WS.Model.App

/-- events of the keepalive machinery -/
def isKA : Ev → Bool
  | .pingStart => true
  | .pingStop => true
  | .wrote op _ => op == Gen.opcodePing
  | _ => false

def strip (tr : Trace) : Trace := tr.filter fun te => !isKA te.2

/-- the state with the ping thread projected away -/
def P (s : St) : St :=
  { s with ping := none, lastPing := 0, lastPong := 0, sched := [], trace := strip s.trace }

/-- the configuration with keepalive off -/
def off (c : Cfg) : Cfg := { c with iv := 0 }

def PR {α : Type} (x : St × α) : St × α := (P x.1, x.2)

@[simp] theorem PR_mk {α : Type} (s : St) (a : α) : PR (s, a) = (P s, a) := rfl

theorem strip_snoc (tr : Trace) (t : Nat) (e : Ev) :
    strip (tr ++ [(t, e)]) = if isKA e then strip tr else strip tr ++ [(t, e)] := by
  simp only [strip, List.filter_append, List.filter_cons, List.filter_nil]
  cases isKA e <;> simp

theorem P_idem (s : St) : P (P s) = P s := by simp [P, strip]

theorem P_emit_ka (s : St) (e : Ev) (h : isKA e = true) : P (s.emit e) = P s := by
  simp [P, St.emit, strip_snoc, h]

theorem P_emit (s : St) (e : Ev) (h : isKA e = false) : P (s.emit e) = (P s).emit e := by
  simp [P, St.emit, strip_snoc, h]

theorem ka_close (p : Bytes) : isKA (.wrote Gen.opcodeClose p) = false := rfl
theorem ka_pong (p : Bytes) : isKA (.wrote Gen.opcodePong p) = false := rfl

theorem P_congr {s s' : St} (h : s' = s) : P s' = P s := by rw [h]

@[simp] theorem isKA_ping (p : Bytes) : isKA (.wrote Gen.opcodePing p) = true := rfl

@[simp] theorem P_now (s : St) : (P s).now = s.now := rfl
@[simp] theorem P_keepRunning (s : St) : (P s).keepRunning = s.keepRunning := rfl
@[simp] theorem P_sock (s : St) : (P s).sock = s.sock := rfl
@[simp] theorem P_hasErrored (s : St) : (P s).hasErrored = s.hasErrored := rfl
@[simp] theorem P_hdt (s : St) : (P s).hasDoneTeardown = s.hasDoneTeardown := rfl
@[simp] theorem P_calls (s : St) : (P s).calls = s.calls := rfl
@[simp] theorem P_dials (s : St) : (P s).dials = s.dials := rfl
@[simp] theorem P_nextIdx (s : St) : (P s).nextIdx = s.nextIdx := rfl
@[simp] theorem P_evs (s : St) : (P s).evs = s.evs := rfl
@[simp] theorem P_arr (s : St) : (P s).arr = s.arr := rfl
@[simp] theorem P_writable (s : St) : (P s).writable = s.writable := rfl
@[simp] theorem off_horizon (c : Cfg) : (off c).horizon = c.horizon := rfl
@[simp] theorem off_has (c : Cfg) : (off c).has = c.has := rfl
@[simp] theorem off_plan (c : Cfg) : (off c).plan = c.plan := rfl
@[simp] theorem off_to (c : Cfg) : (off c).to = c.to := rfl
@[simp] theorem off_reconnect (c : Cfg) : (off c).reconnect = c.reconnect := rfl
@[simp] theorem off_ssl (c : Cfg) : (off c).ssl = c.ssl := rfl
@[simp] theorem off_fuel (c : Cfg) : (off c).fuel = c.fuel := rfl
@[simp] theorem off_act (c : Cfg) (cb : Cb) (k : Nat) : (off c).act cb k = c.act cb k := rfl

theorem stopPing_P (s : St) : stopPing (P s) = P s := rfl

/-! How the commutation proofs below go: the right-hand side is rewritten backwards (`P_with_*`: updating a field that `P`
    keeps commutes with `P`; `← P_emit`; `← P_callee`) until it speaks of `PR (callee c s)`; `rcases` then replaces the call
    by a pair on both sides (in a pattern `_ | _` the alternatives are `false | true`, `ok | exc | halt`, `none | some`),
    and what is left is the commutation of the code after the call.  Booleans are taken apart by `cases`, and a call is
    destructed even where `rfl` would do without: `split`, and `rfl` through a `match` on an opaque call, cost several
    times as much on terms of this size. -/

variable (c : Cfg) (s : St)

theorem P_with_sock (x : Option WSock) : ({ P s with sock := x } : St) = P { s with sock := x } := rfl
theorem P_with_calls (x : Cb → Nat) : ({ P s with calls := x } : St) = P { s with calls := x } := rfl
theorem P_with_hdt (x : Bool) : ({ P s with hasDoneTeardown := x } : St) = P { s with hasDoneTeardown := x } := rfl
theorem P_with_kr (x : Bool) : ({ P s with keepRunning := x } : St) = P { s with keepRunning := x } := rfl
theorem P_with_he (x : Bool) : ({ P s with hasErrored := x } : St) = P { s with hasErrored := x } := rfl
theorem P_with_evs (x : List TEv) (a : Nat) : ({ P s with evs := x, arr := a } : St) = P { s with evs := x, arr := a } := rfl

/-- the clock moved on to `t`: all that `P` sees of a wait -/
def waited (t : Nat) : St := { s with now := max s.now t }

theorem waited_waited {w t : Nat} (h : w ≤ t) : waited (waited s w) t = waited s t := by
  simp only [waited, Nat.max_assoc, Nat.max_eq_right h]

theorem P_pingFire (p : PingTh) : P (pingFire c s p) = waited (P s) p.wake := by
  show _ = P { s with now := max s.now p.wake }
  unfold pingFire
  simp only []
  cases s.keepRunning with
  | false => exact P_emit_ka _ .pingStop rfl
  | true =>
    cases p.first with
    | true => rfl
    | false =>
      rcases s.sock with _ | w
      · rfl
      · simp only [Bool.not_true, Bool.false_eq_true, ↓reduceIte]
        split
        · simp only [P, St.emit, strip_snoc, isKA_ping, ↓reduceIte]
        · rfl

theorem P_advance (n : Nat) : ∀ s t, P (advance c n s t) = waited (P s) t := by
  induction n with
  | zero =>
    intro s t
    rw [advance]
    rfl
  | succ m ih =>
    intro s t
    rw [advance]
    split
    · rfl  -- no ping thread
    · split
      · rw [ih, P_pingFire, waited_waited _ (Nat.le_of_lt ‹_›)]  -- a wake before `t`
      · split
        · split  -- a wake at `t`, by the schedule: the thread first, main first, exhausted
          · rw [ih, P_pingFire, waited_waited _ (Nat.le_of_eq ‹_›)]
            rfl
          · rfl
          · rfl
        · rfl  -- the wake is after `t`

theorem P_waitUntil (t : Nat) : PR (waitUntil c s t) = waitUntil (off c) (P s) t := by
  unfold waitUntil
  rw [off_horizon]
  split
  · rw [PR_mk, P_emit _ _ rfl, P_advance, advance_none _ _ _ _ rfl]
    rfl
  · rw [PR_mk, P_advance, advance_none _ _ _ _ rfl]
    rfl

theorem P_stopPing : P (stopPing s) = P s := by
  unfold stopPing
  rcases s.ping with _ | p
  · rfl
  · exact P_emit_ka { s with ping := none } .pingStop rfl

theorem P_startPing : P (startPing c s) = P s :=
  P_emit_ka _ .pingStart rfl

theorem P_closeTransport : P (closeTransport s) = closeTransport (P s) := by
  unfold closeTransport
  rw [P_sock]
  rcases s.sock with _ | w
  · rfl
  · simp only []
    split
    · exact P_emit _ _ rfl
    · rfl

theorem P_dropSock : P (dropSock s) = dropSock (P s) := by
  unfold dropSock
  rw [P_sock]
  rcases s.sock with _ | w
  · rfl
  · simp only []
    split
    · exact P_emit _ _ rfl
    · rfl

theorem P_closeWait (start : Nat) (evs : List TEv) :
    ∀ s, PR (closeWait c start evs s) = closeWait (off c) start evs (P s) := by
  induction evs with
  | nil =>
    intro s
    rw [closeWait, closeWait, P_now, ← P_waitUntil]
    rcases waitUntil c s _ with ⟨s1, ok⟩
    split <;> rfl
  | cons e rest ih =>
    intro s
    rw [closeWait, closeWait, P_now, P_arr]
    by_cases h : s.now - start < secs Gen.closeTimeoutDefault
    · rw [if_pos h, if_pos h]
      by_cases h2 : s.arr + e.dt ≤ s.now + secs Gen.closeTimeoutDefault
      · rw [if_pos h2, if_pos h2, ← P_waitUntil]
        rcases waitUntil c s _ with ⟨s1, _ | _⟩
        · rfl
        · simp only [PR_mk, Bool.not_true, Bool.false_eq_true, ↓reduceIte]
          cases e.ev with
          | eof => exact congrArg (·, true) (P_closeTransport _)
          | close | reset | protoError => rfl
          | _ => exact ih _
      · -- `rw` would close the goal by the costly `rfl`
        rewrite [if_neg h2, if_neg h2, ← P_waitUntil]
        rcases waitUntil c s _ with ⟨s1, ok⟩
        rfl
    · rw [if_neg h, if_neg h]
      rfl

theorem P_wsClose : PR (wsClose c s) = wsClose (off c) (P s) := by
  unfold wsClose
  rw [P_sock]
  rcases s.sock with _ | w
  · rfl
  · simp only []
    cases w.connected with
    | false => rfl
    | true =>
      simp only [Bool.not_true, Bool.false_eq_true, ↓reduceIte]
      rw [P_with_sock, P_writable]
      rcases St.writable _ with _ | _
      · exact congrArg (·, true) (P_closeTransport _)
      · simp only [↓reduceIte]
        rw [← P_emit _ _ (ka_close _), P_now, P_evs, ← P_closeWait]
        rcases closeWait c _ _ _ with ⟨s2, _ | _⟩
        · rfl
        · exact congrArg (·, true) (P_closeTransport s2)

theorem P_closeSock : PR (closeSock c s) = closeSock (off c) (P s) := by
  unfold closeSock
  rw [P_sock, ← P_wsClose]
  rcases s.sock with _ | w
  · rfl
  · rcases wsClose c s with ⟨s1, _ | _⟩
    · rfl
    · exact congrArg (·, true) (P_dropSock s1)

theorem P_appClose : PR (appClose c s) = appClose (off c) (P s) :=
  P_closeSock c { s with keepRunning := false }

theorem P_entered (cb : Cb) (args : List Arg) : P (entered s cb args) = entered (P s) cb args :=
  P_emit _ _ rfl

theorem P_rawCall (cb : Cb) (args : List Arg) : PR (rawCall c s cb args) = rawCall (off c) (P s) cb args := by
  unfold rawCall
  rw [P_with_calls, ← P_emit _ _ rfl, P_calls]
  simp only [off_act]
  cases c.act cb (s.calls cb) with
  | close =>
    simp only []
    rw [← P_appClose]
    rcases appClose c _ with ⟨s1, _ | _⟩ <;> rfl
  | _ => rfl

theorem P_callback (cb : Cb) (args : List Arg) : PR (callback c s cb args) = callback (off c) (P s) cb args := by
  rw [callback_eq, callback_eq, off_has, off_act, P_calls, ← P_entered]
  cases c.has cb with
  | false => rfl
  | true =>
    simp only [Bool.not_true, Bool.false_eq_true, ↓reduceIte]
    split
    · cases c.has .onError with
      | false => rfl
      | true => exact P_rawCall c _ _ _
    · exact P_rawCall c s cb args

theorem P_teardown (frame : Option Bytes) : PR (teardown c s frame) = teardown (off c) (P s) frame := by
  unfold teardown
  simp only [P_hdt, gen_guard, gen_tdStops, Bool.true_and, ↓reduceIte]
  cases s.hasDoneTeardown with
  | true => rfl
  | false =>
    simp only [Bool.false_eq_true, ↓reduceIte]
    rw [P_with_hdt, stopPing_P, ← P_stopPing, P_with_kr, ← P_wsClose]
    rcases wsClose c _ with ⟨s2, _ | _⟩
    · rfl
    · simp only [PR_mk, Bool.not_true, Bool.false_eq_true, ↓reduceIte]
      rw [← P_dropSock]
      exact P_callback c _ _ _

theorem P_afterReport (e : AExn) : PR (afterReport c s e) = afterReport (off c) (P s) e := by
  unfold afterReport
  rw [off_reconnect, ← P_teardown]
  split
  · rcases teardown c s none with ⟨s1, _ | _ | _⟩ <;> rfl
  · split <;> rfl

theorem P_handleDisconnectBody (e : AExn) (rc : Bool) :
    PR (handleDisconnectBody c s e rc) = handleDisconnectBody (off c) (P s) e rc := by
  unfold handleDisconnectBody
  simp only [gen_dcErr, gen_dcStops, ↓reduceIte]
  rw [P_with_he, stopPing_P, ← P_stopPing]
  cases rc with
  | true => exact P_afterReport c _ e
  | false =>
    simp only [Bool.not_false, ↓reduceIte]
    rw [← P_callback]
    rcases callback c _ .onError [.exn e] with ⟨s2, _ | _ | _⟩
    · exact P_afterReport c s2 e
    · rfl
    · rfl

theorem P_handleDisconnect (e : AExn) (rc : Bool) : PR (handleDisconnect c s e rc) = handleDisconnect (off c) (P s) e rc := by
  unfold handleDisconnect
  rw [P_keepRunning]
  split
  · exact P_teardown c s none
  · exact P_handleDisconnectBody c s e rc

theorem P_asRead (v : Bool) (x : St × R Unit) : PR (asRead v x) = asRead v (PR x) := by
  rcases x with ⟨s, _ | _ | _⟩ <;> rfl

theorem P_deliverMessage (op : Nat) (p : Bytes) (frag : Bool) :
    PR (deliverMessage c s op p frag) = deliverMessage (off c) (P s) op p frag := by
  unfold deliverMessage
  simp only [gen_msgOpcode, gen_dataFirst, ↓reduceIte]
  rw [← P_callback]
  rcases callback c s .onData _ with ⟨s1, _ | _ | _⟩
  · exact P_callback c s1 _ _
  · rfl
  · rfl

theorem P_handleEv (ev : SrvEv) : PR (handleEv c s ev) = handleEv (off c) (P s) ev := by
  cases ev with
  | message op p frag => rw [handleEv, handleEv, P_asRead, P_deliverMessage]
  | ping p =>
    rw [handleEv, handleEv, P_asRead, P_writable, P_callback]
    split
    · rw [P_emit _ _ (ka_pong p)]
    · rfl
  | pong p =>
    rw [handleEv, handleEv, P_asRead, P_callback]
    rfl
  | close body =>
    simp only [handleEv, gen_closeToTeardown, ↓reduceIte]
    rw [P_asRead, P_sock, P_with_sock, P_writable, P_teardown]
    split
    · rw [P_emit _ _ (ka_close _)]
    · rfl
  | eof => exact congrArg (·, R.exc AExn.closed) (P_closeTransport s)
  | _ => rfl

theorem P_readEvents (evs : List TEv) : ∀ s, PR (readEvents c evs s) = readEvents (off c) evs (P s) := by
  induction evs with
  | nil =>
    intro s
    rw [readEvents, readEvents, off_horizon, ← P_waitUntil]
    rcases waitUntil c s _ with ⟨s1, ok⟩
    rfl
  | cons e rest ih =>
    intro s
    rw [readEvents, readEvents, P_now, P_arr, ← P_waitUntil, ← PR_mk s true, ← apply_ite PR]
    rcases (if s.arr + e.dt ≤ s.now then (s, true) else waitUntil c s (s.arr + e.dt)) with ⟨s1, _ | _⟩
    · rfl
    · simp only [PR_mk, Bool.not_true, Bool.false_eq_true, ↓reduceIte]
      rw [P_with_evs]
      cases e.ev with
      | part => exact ih _
      | _ => exact P_handleEv c _ _

theorem P_read : PR (Model.App.read c s) = Model.App.read (off c) (P s) := by
  unfold Model.App.read
  rw [P_keepRunning, P_sock, P_evs, ← P_teardown, ← P_asRead]
  split
  · rfl
  · rcases s.sock with _ | w
    · rfl
    · exact P_readEvents c s.evs s

theorem P_select : PR (select c s) = select (off c) (P s) := by
  unfold select
  -- readiness and the wake-up time read only what `P` and `off` keep
  simp only [show (P s).pendingTls (off c) = s.pendingTls c from rfl, show (P s).rawReadable (off c) = s.rawReadable c from rfl,
    show (P s).nextAt = s.nextAt from rfl, show selectTimeout (off c) = selectTimeout c from rfl, P_now, off_ssl]
  rw [← P_waitUntil]
  cases (c.ssl && s.pendingTls c) with
  | true => rfl
  | false =>
    cases s.rawReadable c with
    | true => rfl
    | false => rcases waitUntil c s _ with ⟨s1, _ | _⟩ <;> rfl

theorem P_connect : PR (connect s) = connect (P s) := by
  unfold connect
  rw [P_dials, P_nextIdx]
  -- no dial left, refused, rejected, established
  rcases s.dials with _ | ⟨_ | _ | _, ds⟩ <;>
    simp only [PR_mk, P, St.emit, strip_snoc, isKA, Bool.false_eq_true, ↓reduceIte]

theorem P_release (rc : Bool) : P (release s rc) = release (P s) rc := by
  unfold release
  rw [P_sock]
  split
  · rcases s.sock with _ | w
    · rfl
    · exact P_closeTransport s
  · rfl

theorem P_afterLoop (rc : Bool) (x : St × R Unit) : PR (afterLoop c rc x) = afterLoop (off c) rc (PR x) := by
  rcases x with ⟨s, _ | e | _⟩
  · rfl
  · exact P_handleDisconnect c s e rc
  · rfl

theorem P_rlNext (k k' : St → St × R Unit) (x : St × R Unit) (hk : ∀ s1, PR (k s1) = k' (P s1)) :
    PR (rlNext k x) = rlNext k' (PR x) := by
  rcases x with ⟨s, _ | _ | _⟩
  · exact hk s
  · rfl
  · rfl

theorem P_afterBody (x : St × R Unit) : PR (afterBody c x) = afterBody (off c) (PR x) := by
  rcases x with ⟨s1, _ | e | _⟩
  · simp only [afterBody, gen_finally, ↓reduceIte, PR_mk]
    exact P_teardown c s1 none
  · simp only [afterBody, gen_finally, ↓reduceIte, PR_mk]
    rw [← P_teardown]
    rcases teardown c s1 none with ⟨s2, _ | e2 | _⟩
    · exact P_teardown c s2 none
    · simp only [PR_mk]
      rw [← P_teardown]
      rcases teardown c s2 none with ⟨s3, _ | _ | _⟩ <;> rfl
    · rfl
  · rfl

theorem P_outcome (x : St × R Unit) : PR (outcome x) = outcome (PR x) := by
  rcases x with ⟨s, _ | e | _⟩
  · exact congrArg (·, Outcome.returned s.hasErrored) (P_emit s _ rfl)
  · exact congrArg (·, Outcome.raised e) (P_emit s _ rfl)
  · rfl

theorem acc_off (hto : c.to = none) : argsAccepted (off c).iv (off c).to = true := by
  rw [show (off c).iv = 0 from rfl, off_to, hto]
  rfl

/-! `check()` reads the stamps that `P` forgets, but only under a ping timeout: from here on there is none (`hto`). -/

theorem P_afterRead (hto : c.to = none) (k k' : St → St × R Unit) (x : St × R Bool) (hk : ∀ s1, PR (k s1) = k' (P s1)) :
    PR (afterRead c k x) = afterRead (off c) k' (PR x) := by
  rcases x with ⟨s, (_ | _) | _ | _⟩
  · rfl
  · simp only [afterRead, PR_mk, checkFails, hto, off_to, Bool.false_eq_true, ↓reduceIte]
    exact hk s
  · rfl
  · rfl

theorem P_dispLoop (hto : c.to = none) (n : Nat) : ∀ s, PR (dispLoop c n s) = dispLoop (off c) n (P s) := by
  induction n with
  | zero =>
    intro s
    exact congrArg (·, R.halt) (P_emit s .outOfFuel rfl)
  | succ m ih =>
    intro s
    rw [dispLoop, dispLoop, P_keepRunning, P_sock, off_ssl, ← P_select]
    cases s.keepRunning with
    | false => rfl
    | true =>
      cases (c.ssl && s.sock.isNone) with
      | true => rfl
      | false =>
        rcases select c s with ⟨s1, _ | ready⟩
        · rfl
        · simp only [PR_mk, Bool.not_true, Bool.false_eq_true, ↓reduceIte]
          rw [P_afterRead c hto _ _ _ ih]
          cases ready with
          | true =>
            simp only [↓reduceIte]
            rw [P_read]
          | false => rfl

theorem P_afterOpen (hto : c.to = none) (rc : Bool) (x : St × R Unit) :
    PR (afterOpen c rc x) = afterOpen (off c) rc (PR x) := by
  rcases x with ⟨s, _ | e | _⟩
  · simp only [afterOpen, PR_mk, P_sock, off_fuel]
    rcases s.sock with _ | w
    · exact P_handleDisconnect c s _ rc
    · simp only []
      rw [P_afterLoop, P_dispLoop c hto]
  · exact P_handleDisconnect c s e rc
  · rfl

theorem P_afterConnect (hto : c.to = none) (rc : Bool) (x : St × R Unit) :
    PR (afterConnect c rc x) = afterConnect (off c) rc (PR x) := by
  rcases x with ⟨s, _ | e | _⟩
  · simp only [afterConnect, PR_mk, show (off c).iv = 0 from rfl, show openCb (off c) rc = openCb c rc from rfl,
      ne_eq, not_true_eq_false, ↓reduceIte]
    rw [P_afterOpen c hto, P_callback]
    split
    · rw [P_startPing]
    · rfl
  · exact P_handleDisconnect c s e rc
  · rfl

theorem P_setSock (hto : c.to = none) (s : St) (rc : Bool) : PR (setSock c s rc) = setSock (off c) (P s) rc := by
  rw [setSock, setSock, P_afterConnect c hto, P_connect, P_release]

theorem P_reconnectLoop (hto : c.to = none) (n : Nat) : ∀ s, PR (reconnectLoop c n s) = reconnectLoop (off c) n (P s) := by
  induction n with
  | zero =>
    intro s
    exact congrArg (·, R.halt) (P_emit s .outOfFuel rfl)
  | succ m ih =>
    intro s
    rw [reconnectLoop, reconnectLoop, P_keepRunning, off_reconnect, ← P_emit s _ rfl]
    simp only []
    rw [← P_waitUntil, P_now]
    cases s.keepRunning with
    | false => rfl
    | true =>
      rcases waitUntil c _ _ with ⟨s2, _ | _⟩
      · rfl
      · simp only [PR_mk, Bool.not_true, Bool.false_eq_true, ↓reduceIte]
        rw [P_rlNext _ _ _ ih, P_setSock c hto]

theorem P_firstStage (hto : c.to = none) (s : St) : PR (firstStage c s) = firstStage (off c) (P s) := by
  rw [firstStage_eq, firstStage_eq, off_fuel, off_reconnect, ← P_setSock c hto]
  refine P_rlNext _ _ _ fun s1 => ?_
  split
  · exact P_reconnectLoop c hto c.fuel s1
  · rfl

theorem P_runForeverO (hto : c.to = none) (hiv : 0 ≤ c.iv) (s : St) : PR (runForeverO c s) = runForeverO (off c) (P s) := by
  have ha : argsAccepted c.iv c.to = true := by
    simp [argsAccepted, hto]
    omega
  cases hs : s.sock with
  | some w => simp only [runForeverO, ha, acc_off c hto, P_sock, hs, Option.isSome_some, Bool.not_true, Bool.false_eq_true,
      ↓reduceIte, PR_mk, P_emit s (.raisedOut .wsgeneric) rfl]
  | none =>
    rw [runForeverO_eq c s ha hs, runForeverO_eq (off c) (P s) (acc_off c hto) hs, P_outcome, runBody, runBody, P_afterBody,
      P_firstStage c hto]
    rfl

end WS.Lemmas.App.KA
