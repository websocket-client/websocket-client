/-
  WS.Lemmas.Connect — `WebSocket.connect` (WS.Model.Connect): the ways one `_http.connect` call can end (`Dialled`),
  the traces `connect` can log, as a grammar of such calls, handshakes and closes (`Reach`), and one walk through
  `connect` and its redirect loop (`connect_post`): the state of the object, and the trace is in the grammar.  What C09
  and C11 say about traces is shown by induction on `Reach` (here and in WS.Lemmas.TlsOrder).
-/
import WS.Lemmas.Http
import WS.Model.Connect
namespace WS.Lemmas.Connect
open WS WS.PyH2 WS.H2 WS.Model.Http WS.Model.Handshake WS.Model.Connect WS.Spec.Handshake
open WS.Lemmas.Handshake WS.Lemmas.Http

/-- transport `j` was opened (dialled or adopted) somewhere in `ev`. -/
def Opens (ev : List Ev) (j : Nat) : Prop := ∃ u, Ev.dial j u ∈ ev ∨ Ev.adopt j u ∈ ev

/-- every transport opened in `tr`, except possibly `cur`, has been closed in `tr`. -/
def AllClosedBut (tr : List Ev) (cur : Option Nat) : Prop :=
  ∀ j, Opens tr j → (cur = some j ∨ Ev.close j ∈ tr)

theorem opens_append {a b : List Ev} {j : Nat} : Opens (a ++ b) j ↔ Opens a j ∨ Opens b j := by
  simp only [Opens, ← exists_or, List.mem_append, or_or_or_comm]

/-- the response `r` answers a request that was written on transport `cur` and carried `r.key`:
    the headers built from the world's random draw for that dial give exactly that key, and the
    request text made of them is a write event of the trace. -/
def Sent (world : Nat → Dial) (o : Opts) (tr : List Ev) (cur : Nat) (r : HsResp) : Prop :=
  ∃ (lines : List Str) (url : Str) (u : UrlParts),
    getHandshakeHeaders u.resource url u.host u.port o (world cur).rand (world cur).jar = .ok (lines, r.key) ∧
    Ev.io cur (.write (encodeUtf8 (requestText lines))) ∈ tr

section
variable {env : Env} {world : Nat → Dial} {o : Opts}

/-- the ways the `i`-th call of `_http.connect` can end, `pu` being what `parse_url` makes of the URL, with the events it
    logs; `io` is the CONNECT exchange with the proxy (empty without a tunnel). -/
inductive Dialled (env : Env) (i : Nat) :
    Except HExn UrlParts → Option Sock → Except HExn (Sock × UrlParts) → List Ev → Prop
  /-- the URL or the address is refused: nothing is dialled -/
  | early {pu us} (e : HExn) : Dialled env i pu us (.error e) []
  | adopt {u} (s : Sock) : Dialled env i (.ok u) (some s) (.ok (s, u)) [.adopt i u]
  /-- the tunnel failed, or the `sslopt` combination is refused -/
  | refused {u} (e : HExn) (io : List IoEv) :
      Dialled env i (.ok u) none (.error e) (.dial i u :: io.map (.plain i) ++ [.close i])
  | wrapFailed {u} (e : HExn) (io : List IoEv) (p : Policy) : u.secure = true →
      Dialled env i (.ok u) none (.error e) (.dial i u :: io.map (.plain i) ++ [.wrap i p false, .close i])
  | plain {u} (s : Sock) (io : List IoEv) : u.secure = false →
      Dialled env i (.ok u) none (.ok (s, u)) (.dial i u :: io.map (.plain i))
  | wrapped {u} (s : Sock) (io : List IoEv) (p : Policy) : u.secure = true →
      Model.Tls.sslSocket env.sslopt env.tlsEnv u.host = .ok p →
      Dialled env i (.ok u) none (.ok (s, u)) (.dial i u :: io.map (.plain i) ++ [.wrap i p true])

variable {i : Nat} {pu : Except HExn UrlParts} {us : Option Sock} {res : Except HExn (Sock × UrlParts)} {ev : List Ev}

theorem httpConnect_cases {d : Dial} {url : Str} (h : httpConnect env d i url us = (res, ev)) :
    Dialled env i (env.parseUrl url) us res ev := by
  unfold httpConnect at h
  split at h
  · cases h  -- the URL is refused
    exact .early _
  next u hp =>
  rw [hp]
  split at h
  · next s =>  -- the caller's socket
    cases h
    exact .adopt s
  split at h
  · cases h  -- no address
    exact .early _
  obtain ⟨r1, s1, io, ht⟩ : ∃ r s1, ∃ io : List IoEv, tunnelStep (env.proxy u) d i u = (r, s1, io.map (.plain i)) := by
    unfold tunnelStep
    split
    · exact ⟨_, _, _, rfl⟩
    · exact ⟨_, _, [], rfl⟩
  rw [ht] at h
  cases r1 with
  | error e =>
    cases h
    exact .refused e io
  | ok _ =>
    dsimp only at h
    split at h
    · next hsec =>
      split at h
      · cases h  -- `sslopt` refused
        exact .refused _ io
      · next p hpol =>
        split at h
        · cases h
          exact .wrapFailed _ io p hsec
        · cases h
          exact .wrapped s1 io p hsec hpol
    · next hsec =>
      cases h
      exact .plain s1 io (by simpa using hsec)

theorem Dialled.opens {j : Nat} (h : Dialled env i pu us res ev) (hj : Opens ev j) : j = i := by
  obtain ⟨u, hj⟩ := hj
  cases h <;> simp at hj <;> exact hj.1

theorem Dialled.no_io (h : Dialled env i pu us res ev) : ∀ j x, Ev.io j x ∉ ev := by
  cases h <;> simp

theorem Dialled.closed {e : HExn} {x : Ev} (h : Dialled env i pu us (.error e) ev) (hx : x ∈ ev) : Ev.close i ∈ ev := by
  cases h with
  | early => cases hx
  | refused => simp
  | wrapFailed => simp

theorem Dialled.wrapped_of_dial {u' : UrlParts} {su : Sock × UrlParts} (h : Dialled env i pu us (.ok su) ev)
    (hm : Ev.dial i u' ∈ ev) (hsec : u'.secure = true) :
    ∃ p, Ev.wrap i p true ∈ ev ∧ Model.Tls.sslSocket env.sslopt env.tlsEnv u'.host = .ok p := by
  cases h with
  | adopt s => simp at hm
  | plain s io hns =>
    simp at hm
    rw [hm, hns] at hsec
    cases hsec
  | wrapped s io p _ hpol =>
    simp at hm
    exact ⟨p, by simp, hm ▸ hpol⟩

/-- `Reach env i cur tr`: the traces `connect` can have logged after `i` calls of `_http.connect`, `cur` being the
    transport that is open.  `close` also covers a transport that is closed already (after a failed re-dial the
    `except:` clause closes `self.sock` a second time); which one is not recorded (`k` is free when `c = none`), so the
    grammar over-approximates there. -/
inductive Reach (env : Env) : Nat → Option Nat → List Ev → Prop
  | init : Reach env 0 none []
  | close {i c tr} (k : Nat) : c = none ∨ c = some k → Reach env i c tr → Reach env i none (tr ++ [.close k])
  | fail {i tr pu us e ev} : Dialled env i pu us (.error e) ev → Reach env i none tr → Reach env (i + 1) none (tr ++ ev)
  | block {i tr pu us su ev} (io : List IoEv) : Dialled env i pu us (.ok su) ev → Reach env i none tr →
      Reach env (i + 1) (some i) (tr ++ ev ++ io.map (.io i))

theorem Reach.dial_lt {i j : Nat} {c : Option Nat} {tr : List Ev} {u : UrlParts} (h : Reach env i c tr)
    (hm : Ev.dial j u ∈ tr) : j < i := by
  induction h with
  | init => cases hm
  | close k _ _ ih => exact ih (by simpa using hm)
  | fail hd _ ih =>
    rcases List.mem_append.mp hm with hm | hm
    · exact Nat.lt_succ_of_lt (ih hm)
    · exact Nat.lt_succ_of_le (Nat.le_of_eq (hd.opens ⟨u, .inl hm⟩))
  | block io hd _ ih =>
    simp only [List.mem_append, List.mem_map, reduceCtorEq, and_false, exists_false, or_false] at hm
    rcases hm with hm | hm
    · exact Nat.lt_succ_of_lt (ih hm)
    · exact Nat.lt_succ_of_le (Nat.le_of_eq (hd.opens ⟨u, .inl hm⟩))

/-- postcondition of a part of `connect` after which at most `b` calls have been made. -/
structure LoopPost (env : Env) (world : Nat → Dial) (o : Opts) (b : Nat) (out : Out) : Prop where
  dials_le : out.dials ≤ b
  reach : Reach env out.dials out.obj.sock out.trace
  ok : out.res = .ok () →
    out.obj.connected = true ∧
    ∃ r cur, out.obj.resp = some r ∧ out.obj.sock = some cur ∧ Sent world o out.trace cur r ∧
      established env.acceptOf ⟨some r.status, r.headers⟩ r.key o.subprotocols = true ∧
      isRedirect (some r.status) = false
  err : ∀ e, out.res = .error e → out.obj.sock = none ∧ out.obj.connected = false

/-- the code read has the check after the redirect loop: a response that is still a redirect there raises. -/
theorem redirectFinalCheck_present : Gen.h2RedirectFinalCheck = true := by decide

/-- what holds whenever `redirectLoop` is entered after `i` calls, the last handshake (on `cur`) having returned `r`. -/
structure LoopPre (env : Env) (world : Nat → Dial) (o : Opts) (i cur : Nat) (r : HsResp) (obj : Obj) (tr : List Ev) :
    Prop where
  good : isRedirect (some r.status) = false →
    established env.acceptOf ⟨some r.status, r.headers⟩ r.key o.subprotocols = true
  resp : obj.resp = some r
  sock : obj.sock = some cur
  unconnected : obj.connected = false
  reach : Reach env i (some cur) tr
  sent : Sent world o tr cur r

variable {b : Nat}

/-- the `except:` clause, entered with `c` open: nothing, or the transport the object holds. -/
theorem cleanup_post {e : HExn} {obj : Obj} {tr : List Ev} {d : Nat} {c : Option Nat}
    (hI : Reach env d c tr) (hc : c = none ∨ c = obj.sock) (hconn : obj.connected = false) (hd : d ≤ b) :
    LoopPost env world o b (cleanup e obj tr d) := by
  unfold cleanup
  cases hs : obj.sock with
  | none =>
    refine ⟨hd, ?_, nofun, fun _ _ => ⟨hs, hconn⟩⟩
    rw [hs] at hc ⊢
    rcases hc with rfl | rfl <;> exact hI
  | some k => exact ⟨hd, hI.close k (hs ▸ hc), nofun, fun _ _ => ⟨rfl, hconn⟩⟩

theorem hs_block {s s' : Sock} {url : Str} {u' : UrlParts} {su : Sock × UrlParts} {res : Except HExn HsResp}
    {tr ev2 : List Ev} (h : hs env (world i) i s url u' o = (res, s', ev2)) (hd : Dialled env i pu us (.ok su) ev)
    (hI : Reach env i none tr) :
    Reach env (i + 1) (some i) (tr ++ ev ++ ev2) ∧
      ∀ r, res = .ok r → ∀ {obj : Obj}, obj.connected = false →
        LoopPre env world o (i + 1) i r { obj with sock := some i, resp := some r } (tr ++ ev ++ ev2) := by
  unfold hs at h
  split at h
  next io hh =>
  cases h
  refine ⟨hI.block io hd, ?_⟩
  rintro r rfl obj hconn
  rcases handshake_cases hh with ⟨_, -, herr, -⟩ | ⟨lines, _, reads, hheaders, rfl, -, rfl, hvalid⟩
  · cases herr
  · exact { good := fun hnr => (hvalid.resolve_left (Bool.eq_false_iff.mp hnr)).1, resp := rfl, sock := rfl,
            unconnected := hconn, reach := hI.block _ hd,
            sent := ⟨lines, url, u', hheaders,
              List.mem_append_right _ (List.mem_map.mpr ⟨_, List.mem_cons_self, rfl⟩)⟩ }

theorem loop_post (n : Nat) : ∀ {i cur : Nat} {r : HsResp} {obj : Obj} {tr : List Ev} {b : Nat},
    LoopPre env world o i cur r obj tr → i + n ≤ b →
    LoopPost env world o b (redirectLoop env world o n i cur r obj tr) := by
  induction n with
  | zero =>
    intro i cur r obj tr b h hb
    unfold redirectLoop
    split
    · exact cleanup_post h.reach (.inr h.sock.symm) h.unconnected hb  -- still a redirect
    · next hred =>
      have hnr : isRedirect (some r.status) = false :=
        redirect_eq ▸ Bool.eq_false_iff.mpr fun hr => hred ⟨redirectFinalCheck_present, hr⟩
      exact { dials_le := hb, reach := h.sock ▸ h.reach,
              ok := fun _ => ⟨rfl, r, cur, h.resp, h.sock, h.sent, h.good hnr, hnr⟩,
              err := nofun }
  | succ n ih =>
    intro i cur r obj tr b h hb
    have hb' : i + 1 + n ≤ b := Nat.add_right_comm i 1 n ▸ hb
    have hi : i + 1 ≤ b := Nat.le_trans (Nat.le_add_right _ n) hb'
    unfold redirectLoop
    dsimp only
    split  -- is the status a redirect?
    · split
      · exact cleanup_post h.reach (.inr h.sock.symm) h.unconnected (Nat.le_of_succ_le hi)  -- no target
      have hI := h.reach.close cur (.inr rfl)
      split
      · next hc => exact cleanup_post (hI.fail (httpConnect_cases hc)) (.inl rfl) h.unconnected hi  -- the re-dial fails
      next hc =>
      have hd := httpConnect_cases hc
      split
      · next hh => exact cleanup_post (hs_block hh hd hI).1 (.inr rfl) h.unconnected hi  -- the handshake fails
      · next hh => exact ih ((hs_block hh hd hI).2 _ rfl h.unconnected) hb'
    · exact ih h (Nat.le_of_succ_le hb)  -- no redirect

end

theorem connect_post (env : Env) (world : Nat → Dial) (url : Str) (o : Opts) (limit : Option Nat)
    (userSock : Option Sock) {obj : Obj} (hsock : obj.sock = none) (hconn : obj.connected = false) :
    LoopPost env world o (limit.getD Gen.redirectLimitDefault + 1) (connect env world url o limit userSock obj) := by
  unfold connect
  split
  · next hc =>  -- the first call stands outside the `try`: no cleanup
    exact ⟨Nat.le_add_left .., hsock ▸ Reach.init.fail (httpConnect_cases hc), nofun, fun _ _ => ⟨hsock, hconn⟩⟩
  next hc =>
  have hd := httpConnect_cases hc
  split
  · next hh => exact cleanup_post (hs_block hh hd .init).1 (.inr rfl) hconn (Nat.le_add_left ..)
  · next hh => exact loop_post _ ((hs_block hh hd .init).2 _ rfl hconn) (Nat.le_of_eq (Nat.add_comm ..))

theorem Reach.allClosedBut {env : Env} {i : Nat} {c : Option Nat} {tr : List Ev} (h : Reach env i c tr) :
    AllClosedBut tr c := by
  induction h with
  | init => exact fun j ⟨_, h⟩ => by simp at h
  | close k hc _ ih =>
    intro j hj
    rcases opens_append.mp hj with hj | ⟨_, hj⟩
    · rcases ih j hj with rfl | h
      · rcases hc with hc | hc <;> cases hc
        exact .inr (by simp)
      · exact .inr (List.mem_append_left _ h)
    · simp at hj
  | fail hd _ ih =>
    intro j hj
    rcases opens_append.mp hj with hj | hj
    · exact (ih j hj).imp_right (List.mem_append_left _)
    · cases hd.opens hj
      obtain ⟨_, hj | hj⟩ := hj <;> exact .inr (List.mem_append_right _ (hd.closed hj))
  | block io hd _ ih =>
    intro j hj
    rw [List.append_assoc] at hj ⊢
    rcases opens_append.mp hj with hj | hj
    · exact (ih j hj).imp nofun (List.mem_append_left _)
    · rcases opens_append.mp hj with hj | ⟨_, hj⟩
      · exact .inl (congrArg some (hd.opens hj).symm)
      · simp at hj

/-- what `connect` guarantees when it leaves through the `except:` clause. -/
structure FailPost (out : Out) : Prop where
  sock_none : out.obj.sock = none
  unconnected : out.obj.connected = false
  closed : AllClosedBut out.trace none

theorem connect_failPost (env : Env) (world : Nat → Dial) (url : Str) (o : Opts) (limit : Option Nat)
    (userSock : Option Sock) (e : HExn) (herr : (connect env world url o limit userSock {}).res = .error e) :
    FailPost (connect env world url o limit userSock {}) := by
  have hp := connect_post env world url o limit userSock (obj := {}) rfl rfl
  obtain ⟨hs, hc⟩ := hp.err e herr
  have hclosed := hp.reach.allClosedBut
  rw [hs] at hclosed
  exact ⟨hs, hc, hclosed⟩

end WS.Lemmas.Connect
