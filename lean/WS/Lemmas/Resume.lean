/-
  WS.Lemmas.Resume — a receive timeout at any byte position (inside the header, the extended length, the mask key or the
  payload) is resumable: nothing is lost, duplicated or reordered (`recvFrame_timeout`; any number of times: C03_timeouts).
-/
import WS.Lemmas.Total
namespace WS.Lemmas.Resume
open WS WS.Model WS.Spec WS.Lemmas.RecvStrict WS.Lemmas.Frame WS.Lemmas.Parser WS.Lemmas.Staged WS.Lemmas.Timeouts
  WS.Lemmas.Total

theorem take_append_drop_eq (n : Nat) (l : Bytes) : l.take n ++ l.drop n = l := List.take_append_drop n l

theorem recvFrame_timeout (c : Conn) (hl : Live c) (hp : Plain c.sock.inp) (hws : WellStaged c)
    (c' : Conn) (h : c.recvFrame = (.error .timeout, c')) :
    vpending c' = vpending c ∧ WellStaged c' ∧ Live c' ∧ Plain c'.sock.inp := by
  rcases recvFrame_plain c hl hp hws with ⟨w, _, _, hres, _⟩ | ⟨_, hv, hws', hl', hp', _⟩ | ⟨hres, _⟩
  · -- a frame was read: `validate` never raises TIMEOUT
    rw [h] at hres
    split at hres
    · next hval =>
      cases hres
      cases validate_proto hval
    · cases hres
  · rw [h] at hv hws' hl' hp'
    exact ⟨hv, hws', hl', hp'⟩
  · rw [h] at hres
    cases hres

/-- `k` successive `recv_frame` calls that each raise TIMEOUT. -/
inductive TimedOut : Conn → Nat → Conn → Prop
  | zero (c : Conn) : TimedOut c 0 c
  | succ {c c1 c2 : Conn} {k : Nat} : c.recvFrame = (.error .timeout, c1) → TimedOut c1 k c2 → TimedOut c (k + 1) c2

end WS.Lemmas.Resume
