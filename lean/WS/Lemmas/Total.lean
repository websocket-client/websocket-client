/-
  WS.Lemmas.Total — the staged parser computes the RFC decoder (`recvFrame_plain`): on a live connection, one `recv_frame` call
  from ANY consistent parser state, over any schedule of non-empty byte chunks and receive timeouts, returns what the decoder
  reads from the stream that starts with the frame in progress (`vpending`) — the frame, or the PROTO error `validate` finds —
  or raises TIMEOUT with that stream intact, or CLOSED; unless a timeout event was in the way, the decoder then says `needMore`.
  Never a Python-level failure, never out of fuel.  `Parser.recvFrame_decodes`, its chunks-only case, closes the file.
-/
import WS.Lemmas.Staged
import WS.Lemmas.Sizes
namespace WS.Lemmas.Total
open WS WS.Model WS.Spec WS.Lemmas.RecvStrict WS.Lemmas.Frame WS.Lemmas.Timeouts WS.Lemmas.Parser WS.Lemmas.Staged

theorem chunks_bytes_nil {inp : List TEv} (hch : Chunks inp) (h : bytesOf inp = []) : inp = [] := by
  cases inp with
  | nil => rfl
  | cons e rest =>
    obtain ⟨bs, rfl, hne⟩ := hch e List.mem_cons_self
    exact absurd (List.append_eq_nil_iff.1 h).1 hne

/-- the outcomes of one `recv_frame` call that the file header lists, on the stream `vpending c`.  A returned frame leaves
    the parser cleared (so `vpending r.2 = pending r.2`) and has met no timeout event, which keeps `Chunks` for the next
    call.  `vpending` runs over the whole script, bytes behind a timeout event included: "the decoder needs more" is
    therefore claimed only of a script without timeout events, and CLOSED occurs in no other. -/
def FrameRes (c : Conn) (r : Except Exn Frame × Conn) : Prop :=
  (∃ w rest, decode (vpending c) = .frame w rest ∧
      r.1 = (match validate (frameOfWire w) c.skipUtf8 with
             | some e => .error e
             | none => .ok (frameOfWire w)) ∧
      pending r.2 = rest ∧ Cleared r.2 ∧ Live r.2 ∧ Plain r.2.sock.inp ∧
      timeoutsOf r.2.sock.inp = timeoutsOf c.sock.inp ∧ SameLoop c r.2) ∨
  (r.1 = .error .timeout ∧ vpending r.2 = vpending c ∧ WellStaged r.2 ∧ Live r.2 ∧ Plain r.2.sock.inp ∧
      (timeoutsOf c.sock.inp = 0 → decode (vpending c) = .needMore)) ∨
  (r.1 = .error .closed ∧ timeoutsOf c.sock.inp = 0 ∧ decode (vpending c) = .needMore)

theorem FrameRes.of_stage {c c' : Conn} {r : Except Exn Frame × Conn} (hv : vpending c' = vpending c)
    (ht : timeoutsOf c'.sock.inp = timeoutsOf c.sock.inp) (hs : SameLoop c c') (h : FrameRes c' r) : FrameRes c r := by
  rw [FrameRes, hv, ht, hs.skipUtf8] at h
  rcases h with ⟨w, rest, hdec, hres, hrest, hclr, hlive, hplain, hto, hsame⟩ | h
  · exact Or.inl ⟨w, rest, hdec, hres, hrest, hclr, hlive, hplain, hto, hs.trans hsame⟩
  · exact Or.inr h

theorem staged_of_sameStage {c c' : Conn} (hs : SameStage c c') (hp : pending c' = pending c) :
    vpending c' = vpending c ∧ (WellStaged c → WellStaged c') := by
  obtain ⟨h1, h2, h3, _⟩ := hs
  unfold vpending stageBytes WellStaged
  rw [h1, h2, h3, hp]
  exact ⟨rfl, id⟩

/-- `recv_strict(n)` inside `recv_frame`: it takes `n` bytes `v` off the pending stream, or is interrupted, which is an outcome
    of the call as it stands (`hdry`: with fewer than `n` bytes to come the decoder needs more, too). -/
theorem read_step {c : Conn} (n : Nat) (hl : Live c) (hp : Plain c.sock.inp) (hws : WellStaged c)
    (hdry : (pending c).length < n → decode (vpending c) = .needMore) :
    (∃ v c1, c.recvStrict n = (.ok v, c1) ∧ v.length = n ∧ v ++ pending c1 = pending c ∧
        Plain c1.sock.inp ∧ timeoutsOf c1.sock.inp = timeoutsOf c.sock.inp ∧ SameRest c c1) ∨
    (∃ e c1, c.recvStrict n = (.error e, c1) ∧ FrameRes c (.error e, c1)) := by
  rcases recvStrict_plain c n hl hp with h | ⟨c1, e1, p1, l1, pl1, ss1, dry1⟩ | ⟨c1, e1, to1, sh1⟩
  · exact Or.inl h
  · obtain ⟨hv, hw⟩ := staged_of_sameStage ss1 p1
    exact Or.inr ⟨_, c1, e1, Or.inr (Or.inl ⟨rfl, hv, hw hws, l1, pl1, fun h0 => hdry (dry1 h0)⟩)⟩
  · exact Or.inr ⟨_, c1, e1, Or.inr (Or.inr ⟨rfl, to1, hdry sh1⟩)⟩

/-- one storing stage of `recv_frame`: the outcome is the outcome from the state the stage leaves (`hnext`), unless the read
    is interrupted. -/
theorem stage_step {c : Conn} {n : Nat} {upd : Bytes → Conn → Conn} (hl : Live c) (hp : Plain c.sock.inp)
    (hws : WellStaged c)
    (hE : c.recvFrame = thenFrame (stage c n upd))
    (hdry : (pending c).length < n → decode (vpending c) = .needMore)
    (hnext : ∀ v c1, v.length = n → SameRest c c1 → Plain c1.sock.inp →
      stageBytes (upd v c1) = stageBytes c ++ v ∧ pending (upd v c1) = pending c1 ∧ (upd v c1).sock.inp = c1.sock.inp ∧
      SameLoop c (upd v c1) ∧ FrameRes (upd v c1) (upd v c1).recvFrame) :
    FrameRes c c.recvFrame := by
  rw [hE, stage]
  unfold thenFrame
  rcases read_step n hl hp hws hdry with ⟨v, c1, e1, hv, p1, pl1, to1, sr1⟩ | ⟨e, c1, e1, hr⟩
  · obtain ⟨hsb, hpe, hi, hsl, hr⟩ := hnext v c1 hv sr1 pl1
    rw [e1]
    refine hr.of_stage ?_ (hi ▸ to1) hsl
    rw [vpending, hsb, hpe, List.append_assoc, p1, vpending]
  · rw [e1]
    exact hr

theorem recvFrame_stored {c : Conn} {h : Hdr} {L : Nat} {k : Bytes} (hh : c.hdr = some h) (hl : c.len = some L)
    (hm : c.maskv = some k) (hk : HdrOk h) (hlo : LenOk h L) (hkl : k.length = if h.hasMask = 1 then 4 else 0)
    (hlive : Live c) (hp : Plain c.sock.inp) : FrameRes c c.recvFrame := by
  have hkn : (if (h.hasMask == 1) = true then 4 else 0) = k.length := by
    rw [hkl]
    simp only [beq_iff_eq]
  -- what the decoder says of the stream, by whether `L` more bytes are there
  have hdec : decode (vpending c) =
      if (pending c).length < L then .needMore
      else .frame (mkWire (hdrByte0 h) (h.hasMask == 1) k (lenForm h.lenBits)
            (if h.hasMask == 1 then unmask k ((pending c).take L) else (pending c).take L))
          ((pending c).drop L) := by
    simp only [vpending, stageBytes, hh, hl, hm, List.append_assoc]
    rw [decode_extBytes h hk L hlo, decodePayload_eq _ _ _ _ _ hkn, List.take_left' rfl, List.drop_left' rfl]
    simp only [List.length_append, Nat.add_lt_add_iff_left]
  rw [recvFrame_payload hh hl hm]
  rcases read_step L hlive hp (by simp only [WellStaged, hh, hl, hm]; exact ⟨hk, hlo, hkl⟩)
    (fun hs => by rw [hdec, if_pos hs]) with ⟨v, c1, e1, hv, p1, pl1, to1, sr1⟩ | ⟨e, c1, e1, hr⟩
  · rw [e1]
    rw [← p1, if_neg (by rw [List.length_append]; omega), List.take_left' hv, List.drop_left' hv] at hdec
    obtain ⟨_, _, _, _, rfl⟩ := sr1
    dsimp only
    exact Or.inl ⟨_, _, hdec, by rw [frameOfWire_staged h hk k _ hkl]; rfl, rfl, ⟨rfl, rfl, rfl⟩, hlive, pl1, to1,
      SameLoop.rfl' c⟩
  · rw [e1]
    exact hr

theorem recvFrame_lenStored {c : Conn} {h : Hdr} {L : Nat} (hh : c.hdr = some h) (hl : c.len = some L)
    (hm : c.maskv = none) (hk : HdrOk h) (hlo : LenOk h L) (hlive : Live c) (hp : Plain c.sock.inp) :
    FrameRes c c.recvFrame := by
  have hn := keyLen_eq hk
  refine stage_step hlive hp (by simp only [WellStaged, hh, hl, hm]; exact ⟨hk, hlo, trivial⟩) (recvFrame_mask c hh hl hm)
    (fun hs => ?_) (fun v c1 hv sr pl => ?_)
  · simp only [vpending, stageBytes, hh, hl, hm, List.append_nil, List.append_assoc]
    rw [decode_extBytes h hk L hlo, decodePayload_eq _ _ _ _ _ rfl, if_pos]
    simp only [beq_iff_eq, ← hn]
    omega
  · obtain ⟨_, _, _, _, rfl⟩ := sr
    refine ⟨?_, rfl, rfl, SameLoop.rfl' c, recvFrame_stored hh hl rfl hk hlo (hv.trans hn) hlive pl⟩
    simp only [stageBytes, hh, hl, hm, List.append_nil, List.append_assoc]

theorem recvFrame_hdrStored {c : Conn} {h : Hdr} (hh : c.hdr = some h) (hl : c.len = none) (hm : c.maskv = none)
    (hk : HdrOk h) (hlive : Live c) (hp : Plain c.sock.inp) : FrameRes c c.recvFrame := by
  refine stage_step hlive hp (by simp only [WellStaged, hh, hl]; exact ⟨hk, hm⟩) (recvFrame_len c hh hl hk.lenBits)
    (fun hs => ?_) (fun v c1 hv sr pl => ?_)
  · simp only [vpending, stageBytes, hh, hl, List.append_nil]
    rw [decode_hdrBytes h hk, decodeLen_eq, if_pos hs]
  · obtain ⟨he, hlo⟩ := extBytes_lenOf h v hv
    obtain ⟨_, _, _, _, rfl⟩ := sr
    refine ⟨?_, rfl, rfl, SameLoop.rfl' c, recvFrame_lenStored hh rfl hm hk hlo hlive pl⟩
    simp only [stageBytes, hh, hl, hm, he, List.append_nil]

theorem recvFrame_cleared {c : Conn} (hclr : Cleared c) (hlive : Live c) (hp : Plain c.sock.inp) :
    FrameRes c c.recvFrame := by
  refine stage_step hlive hp (wellStaged_cleared hclr) (recvFrame_hdr c hclr.1) (fun hs => ?_) (fun v c1 hv sr pl => ?_)
  · rw [vpending_cleared hclr]
    match pending c, hs with
    | [], _ => rfl
    | [_], _ => rfl
  · obtain ⟨_, _, _, _, rfl⟩ := sr
    match v, hv with
    | [b0, b1], _ =>
      refine ⟨?_, rfl, rfl, SameLoop.rfl' c, recvFrame_hdrStored rfl hclr.2.1 hclr.2.2 (hdrOk_hdrOf b0 b1) hlive pl⟩
      simp only [stageBytes, hclr.1, hclr.2.1, hdrBytes_hdrOf, List.getD_cons_zero, List.getD_cons_succ, List.append_nil,
        List.nil_append]

theorem recvFrame_plain (c : Conn) (hlive : Live c) (hp : Plain c.sock.inp) (hws : WellStaged c) :
    FrameRes c c.recvFrame := by
  rw [← recvFrame_virt c hws]
  exact FrameRes.of_stage (c' := virt c) (List.append_assoc (stageBytes c) c.buf _) rfl (SameLoop.rfl' c)
    (recvFrame_cleared ⟨rfl, rfl, rfl⟩ hlive hp)

theorem recvFrame_decodes_staged (c : Conn) (hl : Live c) (hch : Chunks c.sock.inp) (hws : WellStaged c)
    (w : WireFrame) (rest : Bytes) (hdec : decode (vpending c) = .frame w rest) :
    ∃ c', c.recvFrame = ((match validate (frameOfWire w) c.skipUtf8 with
                          | some e => .error e
                          | none => .ok (frameOfWire w)), c') ∧
      pending c' = rest ∧ Cleared c' ∧ Good c c' := by
  obtain ⟨hp, ht⟩ := (chunks_iff _).1 hch
  rcases recvFrame_plain c hl hp hws with
    ⟨w', rest', hdec', hres, hrest, hclr, hlive, hplain, hto, hsame⟩ | ⟨_, _, _, _, _, hmore⟩ | ⟨_, _, hmore⟩
  · cases hdec.symm.trans hdec'
    exact ⟨c.recvFrame.2, Prod.ext hres rfl, hrest, hclr, hlive, (chunks_iff _).2 ⟨hplain, hto.trans ht⟩, hsame,
      Sizes.recvFrame_sizes c⟩
  · cases hdec.symm.trans (hmore ht)
  · cases hdec.symm.trans hmore

end WS.Lemmas.Total

-- in `Parser`'s terms, hence in its namespace; here because the proof goes through `Staged`
namespace WS.Lemmas.Parser
open WS WS.Model WS.Spec WS.Lemmas.RecvStrict WS.Lemmas.Frame WS.Lemmas.Total

/-- the parser refines the RFC decoder (`Props.C02.C02_decode` says it in full). -/
theorem recvFrame_decodes (c : Conn) (hl : Live c) (hch : Chunks c.sock.inp) (hclr : Cleared c)
    (w : WireFrame) (rest : Bytes) (hdec : decode (pending c) = .frame w rest) :
    ∃ c', c.recvFrame = ((match validate (frameOfWire w) c.skipUtf8 with
                          | some e => .error e
                          | none => .ok (frameOfWire w)), c') ∧
      pending c' = rest ∧ Cleared c' ∧ Good c c' := by
  exact recvFrame_decodes_staged c hl hch (Staged.wellStaged_cleared hclr) w rest ((Staged.vpending_cleared hclr).symm ▸ hdec)

end WS.Lemmas.Parser
