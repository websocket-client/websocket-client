/-
  WS.Lemmas.AppLost — reconnection after an ESTABLISHED connection is lost (built-in dispatcher loop, quiet plan,
  keepalive off): any mix of failed attempts and lost connections is worked through, each retry one interval after the loss,
  until a connection is closed by the server.
-/
import WS.Lemmas.AppReconn
namespace WS.Lemmas.App
open WS WS.Model.App
open WS.Spec.AppTrace (cbOnly expectedDeliveries reportTrace)

/-- the state in which `setSock` returns after a connection entered in `s3` carried `legal` and was lost by `te` -/
def lostState (c : Cfg) (s3 : St) (legal : List TEv) (te : TEv) (rc : Bool) (idx : Nat) : St :=
  let sT : St := { runLegal c s3 legal with now := endTime s3.arr (legal ++ [te]) }
  { sT with hasErrored := true, lastPing := 0, lastPong := 0,
            sock := some (lossSock te.ev { idx := idx, connected := true, isOpen := true, dead := false }),
            evs := [], arr := sT.arr + te.dt,
            calls := if rc then sT.calls else cbCalls c sT.calls .onError,
            trace := (sT.trace ++ (if te.ev = .eof then [(sT.now, .sockClosed idx)] else [])) ++
              (if rc then [] else cbTrace c sT.calls sT.now .onError [.exn (lossExn te.ev)]) }

theorem attempt_lost (c : Cfg) (hq : Quiet c) (hT : 0 < selectTimeout c) (hiv : c.iv = 0) (hr : c.reconnect ≠ 0)
    (s : St) (rc : Bool) (legal : List TEv) (te : TEv) (ds : List Dial)
    (hd : s.dials = .established (legal ++ [te]) :: ds)
    (hs : s.sock = none ∨ ∃ w, s.sock = some w ∧ w.isOpen = false)
    (kr : s.keepRunning = true) (pg : s.ping = none) (lp : s.lastPing = 0)
    (hleg : ∀ e ∈ legal, isLegal e.ev = true) (hl : isLoss te.ev = true)
    (hfuel : need0 (selectTimeout c) (legal ++ [te]) + 1 ≤ c.fuel)
    (hz : endTime s.now (legal ++ [te]) ≤ c.horizon) :
    setSock c s rc = (lostState c (enterR c s rc (legal ++ [te]) ds) legal te rc s.nextIdx, .ok ()) := by
  obtain ⟨m, h, hu, hsk, har⟩ := setSock_conn c hq hT hiv s rc legal te ds hd hs kr pg lp hleg hfuel hz
  rw [h, loss_result c _ _ te _ hsk rfl har hl]
  exact disconnect_reconnect c hq hr _ _ rc hu.kr hu.pg (lossExn_ne_ki _)

/-- waiting to reconnect; `sk`: the `WebSocket` object of the previous attempt, its transport released or not -/
structure Waiting (s : St) : Prop where
  kr : s.keepRunning = true
  pg : s.ping = none
  hdt : s.hasDoneTeardown = false
  lp : s.lastPing = 0
  he : s.hasErrored = true
  sk : ∃ w, s.sock = some w

/-- index of the transport the state holds open, if any -/
def openIdx (s : St) : Option Nat :=
  match s.sock with
  | some w => if w.isOpen then some w.idx else none
  | none => none

theorem netOnly_relTrace (t : Nat) (o : Option Nat) : netOnly (relTrace t o) = relTrace t o := by
  cases o <;> rfl

theorem cbOnly_relTrace (t : Nat) (o : Option Nat) : cbOnly (relTrace t o) = [] := by
  cases o <;> rfl

/-- the interval slept and `if reconnecting and self.sock: self.sock.shutdown()` done -/
def preStep (r : Nat) (s : St) : St :=
  { s with now := s.now + r, sock := s.sock.map fun w => { w with isOpen := false, connected := false },
           trace := s.trace ++ [(s.now, .sleep r)] ++ relTrace (s.now + r) (openIdx s) }

theorem release_sleepStep (r : Nat) (s : St) : release (sleepStep r s) true = preStep r s := by
  cases hs : s.sock with
  | none => simp [release, sleepStep, preStep, hs, openIdx, relTrace]
  | some w =>
    obtain ⟨i, cn, o, d⟩ := w
    cases o <;> simp [release, sleepStep, preStep, closeTransport, hs, St.emit, openIdx, relTrace]

theorem preStep_net (r : Nat) (s : St) :
    netOnly (preStep r s).trace = netOnly s.trace ++ [(s.now, .sleep r)] ++ relTrace (s.now + r) (openIdx s) := by
  simp only [preStep, netOnly_append, netOnly_relTrace]
  rfl

theorem preStep_cb (r : Nat) (s : St) : cbOnly (preStep r s).trace = cbOnly s.trace := by
  simp only [preStep, cbOnly_append, cbOnly_relTrace, List.append_nil]
  exact List.append_nil _

theorem preStep_noOpen {r : Nat} {s : St} (h : Waiting s) : NoOpen (preStep r s) := by
  obtain ⟨w, hs⟩ := h.sk
  exact Or.inr ⟨{ w with isOpen := false, connected := false }, by rw [preStep, hs]; rfl, rfl⟩

theorem rl_stepW (c : Cfg) (n : Nat) (s : St) (h : Waiting s) (hz : s.now + c.reconnect ≤ c.horizon) :
    reconnectLoop c (n + 1) s = rlNext (reconnectLoop c n) (setSock c (preStep c.reconnect s) true) := by
  rw [reconnectLoop]
  simp only [h.kr, Bool.not_true, Bool.false_eq_true, ↓reduceIte]
  rw [waitUntil_none c _ _ (by simpa using h.pg) (by simpa using hz)]
  simp only [Bool.not_true, Bool.false_eq_true, ↓reduceIte, St.emit, Nat.max_eq_right (Nat.le_add_right s.now c.reconnect)]
  -- the release inside `setSock` is the one `preStep` has done already
  show rlNext _ (setSock c (sleepStep c.reconnect s) true) = _
  rw [setSock, setSock, release_sleepStep, connect_release _ _ (preStep_noOpen h)]

/-- the dial outcome that the attempt is in the world -/
def Att.toDial : Att → Dial
  | .fail d => d
  | .lost legal te => .established (legal ++ [te])

/-- the attempt is what `Att` calls it: the dial fails; the traffic is legal and ends in a loss -/
def Att.Ok : Att → Prop
  | .fail d => isFail d = true
  | .lost legal te => (∀ e ∈ legal, isLegal e.ev = true) ∧ isLoss te.ev = true

/-- dispatcher-loop iterations the attempt needs -/
def Att.fuel (T : Nat) : Att → Nat
  | .fail _ => 0
  | .lost legal te => need0 T (legal ++ [te]) + 1

theorem attClose_cases (t i : Nat) (a : Att) :
    attClose t i a = [] ∨ attClose t i a = [(attEnd t a, .sockClosed i)] := by
  cases a with
  | fail d => exact Or.inr rfl
  | lost legal te => by_cases h : te.ev = .eof <;> simp [attClose, attEnd, h]

theorem attOpen_cases (i : Nat) (a : Att) : attOpen i a = none ∨ attOpen i a = some i := by
  cases a with
  | fail d => exact Or.inl rfl
  | lost legal te => by_cases h : te.ev = .eof <;> simp [attOpen, h]

theorem attEnd_ge (t : Nat) (a : Att) : t ≤ attEnd t a := by
  cases a with
  | fail d => exact Nat.le_refl t
  | lost legal te => exact endTime_ge t _

/-- the callbacks of an attempt that does not end the run, dialled at `t`, and the counters afterwards: the failure / loss is
    reported to on_error by the first attempt of a run only (`if not reconnecting`) -/
def attCb (c : Cfg) (rc : Bool) (calls : Cb → Nat) (t : Nat) : Att → Trace × (Cb → Nat)
  | .fail d => if rc then ([], calls) else (cbTrace c calls t .onError [.exn (dialExn d)], cbCalls c calls .onError)
  | .lost legal te =>
    let c1 := cbCalls c calls (openCb c rc)
    let del := expectedDeliveries c.has t legal
    let c2 := specCalls c.has c.plan c1 del
    (cbTrace c calls t (openCb c rc) [] ++ reportTrace c.has c.plan c1 del ++
       (if rc then [] else cbTrace c c2 (endTime t (legal ++ [te])) .onError [.exn (lossExn te.ev)]),
     if rc then c2 else cbCalls c c2 .onError)

/-- `lp`: `check()` on an established connection reads `last_ping_tm`, so a stamp left from an earlier run must be gone
    unless the dial fails -/
theorem attempt_spec (c : Cfg) (hq : Quiet c) (hT : 0 < selectTimeout c) (hiv : c.iv = 0) (hr : c.reconnect ≠ 0)
    (s : St) (rc : Bool) (a : Att) (ds : List Dial) (kr : s.keepRunning = true) (pg : s.ping = none)
    (hdt : s.hasDoneTeardown = false) (hs : NoOpen s) (lp : isFail a.toDial = true ∨ s.lastPing = 0)
    (hd : s.dials = a.toDial :: ds) (ha : a.Ok)
    (hfuel : a.fuel (selectTimeout c) ≤ c.fuel) (hz : attEnd s.now a ≤ c.horizon) :
    ∃ s', setSock c s rc = (s', .ok ()) ∧ Waiting s' ∧ s'.dials = ds ∧ s'.nextIdx = s.nextIdx + 1 ∧
      s'.now = attEnd s.now a ∧ openIdx s' = attOpen s.nextIdx a ∧
      netOnly s'.trace = netOnly s.trace ++ [(s.now, .dial s.nextIdx)] ++ attClose s.now s.nextIdx a ∧
      cbOnly s'.trace = cbOnly s.trace ++ (attCb c rc s.calls s.now a).1 ∧ s'.calls = (attCb c rc s.calls s.now a).2 := by
  cases a with
  | fail d =>
    refine ⟨_, setSock_fail c hq hr s rc d ds hs pg hd ha kr, ⟨kr, pg, hdt, rfl, rfl, ⟨_, rfl⟩⟩,
      rfl, rfl, rfl, rfl, ?_, ?_, ?_⟩
    · simp only [netOnly_append, apply_ite netOnly, netOnly_cbTrace]
      simp [netOnly, attClose]
    · simp only [attCb, cbOnly_append, apply_ite cbOnly, cbOnly_cbTrace]
      cases rc <;> simp [cbOnly]
    · cases rc <;> rfl
  | lost legal te =>
    obtain ⟨hleg, hl⟩ := ha
    have lp : s.lastPing = 0 := lp.resolve_left (by simp [Att.toDial, isFail])
    obtain ⟨tr, hX, hcb, hnet⟩ := conn_state c s rc legal [te] ds hleg
    refine ⟨_, attempt_lost c hq hT hiv hr s rc legal te ds hd hs kr pg lp hleg hl hfuel hz, ?_⟩
    dsimp only [lostState]
    rw [hX]
    refine ⟨⟨kr, pg, hdt, rfl, rfl, ⟨_, rfl⟩⟩, rfl, rfl, rfl, ?_, ?_, ?_, rfl⟩
    · simp only [openIdx, attOpen]
      generalize te.ev = ev
      cases ev <;> rfl
    · simp only [attClose, netOnly_append, hnet, apply_ite netOnly, netOnly_cbTrace]
      simp [netOnly, enterR]
    · simp only [attCb, cbOnly_append, hcb, apply_ite cbOnly, cbOnly_cbTrace]
      simp [cbOnly, enterR]

theorem rl_round (c : Cfg) (hq : Quiet c) (hT : 0 < selectTimeout c) (hiv : c.iv = 0) (hr : c.reconnect ≠ 0)
    (n : Nat) (s : St) (a : Att) (ds : List Dial) (h : Waiting s)
    (hd : s.dials = a.toDial :: ds) (ha : a.Ok)
    (hfuel : a.fuel (selectTimeout c) ≤ c.fuel) (hz : attEnd (s.now + c.reconnect) a ≤ c.horizon) :
    ∃ s', reconnectLoop c (n + 1) s = reconnectLoop c n s' ∧ Waiting s' ∧ s'.dials = ds ∧ s'.nextIdx = s.nextIdx + 1 ∧
      s'.now = attEnd (s.now + c.reconnect) a ∧ openIdx s' = attOpen s.nextIdx a ∧
      netOnly s'.trace = netOnly s.trace ++ [(s.now, .sleep c.reconnect)] ++ relTrace (s.now + c.reconnect) (openIdx s) ++
        [(s.now + c.reconnect, .dial s.nextIdx)] ++ attClose (s.now + c.reconnect) s.nextIdx a ∧
      cbOnly s'.trace = cbOnly s.trace ++ (attCb c true s.calls (s.now + c.reconnect) a).1 ∧
      s'.calls = (attCb c true s.calls (s.now + c.reconnect) a).2 := by
  obtain ⟨s', a_run, a_wait, a_dials, a_idx, a_now, a_open, a_net, a_cb, a_calls⟩ :=
    attempt_spec c hq hT hiv hr (preStep c.reconnect s) true a ds h.kr h.pg h.hdt (preStep_noOpen h) (Or.inr h.lp) hd ha
      hfuel hz
  refine ⟨s', ?_, a_wait, a_dials, a_idx, a_now, a_open, ?_, ?_, a_calls⟩
  · rw [rl_stepW c n s h (Nat.le_trans (attEnd_ge _ a) hz), a_run]
    rfl
  · rw [a_net, preStep_net]
    rfl
  · rw [a_cb, preStep_cb]
    rfl

theorem attsOpen_concat (a : Att) : ∀ (as : List Att) (i : Nat) (o : Option Nat),
    attsOpen i o (as ++ [a]) = attOpen (i + as.length) a := by
  intro as
  induction as with
  | nil =>
    intro i o
    rfl
  | cons b l ih =>
    intro i o
    simp only [List.cons_append, attsOpen, ih, List.length_cons]
    congr 1
    omega

theorem attsEnd_ge (r : Nat) : ∀ (as : List Att) (t : Nat), t ≤ attsEnd r t as := by
  intro as
  induction as with
  | nil =>
    intro t
    exact Nat.le_refl t
  | cons a l ih =>
    intro t
    exact Nat.le_trans (Nat.le_trans (Nat.le_add_right t r) (attEnd_ge (t + r) a)) (ih _)

theorem le_of_final_le {r t H : Nat} {as : List Att} {evs : List TEv} (hz : endTime (attsEnd r t as + r) evs ≤ H) : t ≤ H :=
  Nat.le_trans (attsEnd_ge r as t) (Nat.le_trans (Nat.le_add_right _ _) (Nat.le_trans (endTime_ge _ _) hz))

/-- the callbacks of the last connection of the run (re-established at `t`, legal traffic, closed by the server) -/
def finalCb (c : Cfg) (calls : Cb → Nat) (t : Nat) (legal : List TEv) (te : TEv) (body : Bytes) : Trace :=
  let c1 := cbCalls c calls (openCb c true)
  let del := expectedDeliveries c.has t legal
  cbTrace c calls t (openCb c true) [] ++ reportTrace c.has c.plan c1 del ++
    cbTrace c (specCalls c.has c.plan c1 del) (endTime t (legal ++ [te])) .onClose (closeArgs c (some body))

theorem finalCb_eq_expectedConn (c : Cfg) (calls : Cb → Nat) (t : Nat) (legal : List TEv) (te : TEv) (body : Bytes)
    (hleg : ∀ e ∈ legal, isLegal e.ev = true) (hterm : isTerm te.ev = true) :
    finalCb c calls t legal te body =
      Spec.AppTrace.expectedConn c.has c.plan calls t (openCb c true) (legal ++ [te]) ++
        cbTrace c (specCalls c.has c.plan (cbCalls c calls (openCb c true)) (expectedDeliveries c.has t legal))
          (endTime t (legal ++ [te])) .onClose (closeArgs c (some body)) := by
  rw [expectedConn_eq c calls t _ legal te hleg hterm]
  rfl

theorem finalCb_getLast? (c : Cfg) (hq : Quiet c) (hoc : c.has .onClose = true) (pre : Trace) (calls : Cb → Nat) (t : Nat)
    (legal : List TEv) (te : TEv) (body : Bytes) :
    (pre ++ finalCb c calls t legal te body).getLast? =
      some (endTime t (legal ++ [te]), .cb .onClose (closeArgs c (some body))) := by
  obtain ⟨-, -, h_onClose_ok⟩ := hq
  simp only [finalCb, cbTrace, hoc, Bool.not_true, Bool.false_eq_true, ↓reduceIte]
  simp only [h_onClose_ok, reduceCtorEq]
  simp [List.getLast?_append]

/-- the callbacks of the retries `as` (the first of them preceded by a sleep that starts at `t`), and the counters afterwards -/
def attsCb (c : Cfg) (r : Nat) : (Cb → Nat) → Nat → List Att → Trace × (Cb → Nat)
  | calls, _, [] => ([], calls)
  | calls, t, a :: as =>
    ((attCb c true calls (t + r) a).1 ++ (attsCb c r (attCb c true calls (t + r) a).2 (attEnd (t + r) a) as).1,
     (attsCb c r (attCb c true calls (t + r) a).2 (attEnd (t + r) a) as).2)

theorem rl_mixed (c : Cfg) (hq : Quiet c) (hT : 0 < selectTimeout c) (hiv : c.iv = 0) (hr : c.reconnect ≠ 0)
    (legal : List TEv) (te : TEv) (body : Bytes)
    (hleg : ∀ e ∈ legal, isLegal e.ev = true) (hk : te.ev = .close body)
    (hfuel : need0 (selectTimeout c) (legal ++ [te]) + 1 ≤ c.fuel) :
    ∀ (as : List Att) (s : St) (n : Nat), Waiting s →
      s.dials = as.map Att.toDial ++ [.established (legal ++ [te])] → (∀ a ∈ as, a.Ok) →
      (∀ a ∈ as, a.fuel (selectTimeout c) ≤ c.fuel) → as.length + 2 ≤ n →
      endTime (attsEnd c.reconnect s.now as + c.reconnect) (legal ++ [te]) ≤ c.horizon →
      ∃ sF, reconnectLoop c n s = (sF, .ok ()) ∧ sF.hasDoneTeardown = true ∧ sF.hasErrored = true ∧
        sF.sock = none ∧ sF.ping = none ∧ sF.keepRunning = false ∧
        sF.now = endTime (attsEnd c.reconnect s.now as + c.reconnect) (legal ++ [te]) ∧
        netOnly sF.trace = netOnly s.trace ++ attsTrace c.reconnect s.now s.nextIdx (openIdx s) as ++
          [(attsEnd c.reconnect s.now as, .sleep c.reconnect)] ++
          relTrace (attsEnd c.reconnect s.now as + c.reconnect) (attsOpen s.nextIdx (openIdx s) as) ++
          [(attsEnd c.reconnect s.now as + c.reconnect, .dial (s.nextIdx + as.length)),
           (endTime (attsEnd c.reconnect s.now as + c.reconnect) (legal ++ [te]), .sockDropped (s.nextIdx + as.length))] ∧
        cbOnly sF.trace = cbOnly s.trace ++ (attsCb c c.reconnect s.calls s.now as).1 ++
          finalCb c (attsCb c c.reconnect s.calls s.now as).2 (attsEnd c.reconnect s.now as + c.reconnect) legal te body := by
  intro as
  induction as with
  | nil =>
    -- the last round: sleep, release, the connection the server closes; the loop then finds the run stopped
    intro s n h hd _ _ hn hz
    obtain ⟨m, rfl⟩ := Nat.exists_eq_add_of_le' hn
    obtain ⟨k, e, hu, hsk, har⟩ := setSock_conn c hq hT hiv (preStep c.reconnect s) true legal te [] hd (preStep_noOpen h)
      h.kr h.pg h.lp hleg hfuel hz
    obtain ⟨tr, hX, hcb, hnet⟩ := conn_state c (preStep c.reconnect s) true legal [te] [] hleg
    rw [close_result c hq _ _ te _ body hsk rfl rfl hu.pg (by rw [hX]; exact h.hdt) har hk, hX] at e
    refine ⟨_, (rl_stepW c (m + 1) s h (Nat.le_trans (endTime_ge _ _) hz)).trans
      ((congrArg _ e).trans (reconnectLoop_Q c m _ rfl)), rfl, h.he, rfl, h.pg, rfl, rfl, ?_, ?_⟩
    · simp only [netOnly_append, hnet, netOnly_cbTrace, preStep_net, attsTrace, attsEnd, attsOpen]
      simp [netOnly, preStep]
    · simp only [finalCb, attsCb, attsEnd, cbOnly_append, cbOnly_cbTrace, hcb, preStep_cb]
      simp [cbOnly, preStep]
  | cons a l ih =>
    intro s n h hd hok hfl hn hz
    obtain ⟨m, rfl⟩ := Nat.exists_eq_add_of_le' (Nat.le_trans (Nat.le_add_left 1 _) hn)
    obtain ⟨hoa, hol⟩ := List.forall_mem_cons.1 hok
    obtain ⟨hfa, hfl⟩ := List.forall_mem_cons.1 hfl
    obtain ⟨s', a_run, a_wait, a_dials, a_idx, a_now, a_open, a_net, a_cb, a_calls⟩ :=
      rl_round c hq hT hiv hr m s a _ h hd hoa hfa (le_of_final_le hz)
    -- the rest of the loop runs from `s'`; what the round gave turns its closed forms into those from `s`
    have f := ih s' m a_wait a_dials hol hfl (Nat.le_of_succ_le_succ hn) (by rw [a_now]; exact hz)
    rw [a_now, a_idx, a_open, a_net, a_cb, a_calls] at f
    rw [a_run]
    simpa only [attsTrace, attsEnd, attsOpen, attsCb, List.length_cons, List.append_assoc, Nat.add_assoc,
      Nat.add_comm 1] using f

/-- `hl0`: a ping stamp left from an earlier run matters only if the first dial is established -/
theorem run_resumes (c : Cfg) (hq : Quiet c) (hacc : argsAccepted c.iv c.to = true) (hiv : c.iv = 0)
    (hr : c.reconnect ≠ 0) (s0 : St) (a : Att) (as : List Att) (legal : List TEv) (te : TEv) (body : Bytes)
    (hs0 : s0.sock = none) (hp0 : s0.ping = none) (hl0 : isFail a.toDial = true ∨ s0.lastPing = 0)
    (hd : s0.dials = (a :: as).map Att.toDial ++ [.established (legal ++ [te])])
    (hok : ∀ x ∈ a :: as, x.Ok)
    (hleg : ∀ e ∈ legal, isLegal e.ev = true) (hk : te.ev = .close body)
    (hfuel : need0 (selectTimeout c) (legal ++ [te]) + 1 ≤ c.fuel)
    (hfl : ∀ x ∈ a :: as, x.fuel (selectTimeout c) ≤ c.fuel) (hfuel2 : as.length + 2 ≤ c.fuel)
    (hz : endTime (attsEnd c.reconnect (attEnd s0.now a) as + c.reconnect) (legal ++ [te]) ≤ c.horizon) :
    let r := c.reconnect
    let t1 := attEnd s0.now a
    let i1 := s0.nextIdx + 1
    let o1 := attOpen s0.nextIdx a
    let tK := attsEnd r t1 as
    let iK := i1 + as.length
    let tEnd := endTime (tK + r) (legal ++ [te])
    (runForeverO c s0).2 = .returned true ∧
    netOnly (runForever c s0).trace =
      netOnly s0.trace ++ [(s0.now, .dial s0.nextIdx)] ++ attClose s0.now s0.nextIdx a ++
        attsTrace r t1 i1 o1 as ++
        [(tK, .sleep r)] ++ relTrace (tK + r) (attsOpen i1 o1 as) ++
        [(tK + r, .dial iK), (tEnd, .sockDropped iK), (tEnd, .returned true)] ∧
    cbOnly (runForever c s0).trace =
      cbOnly s0.trace ++ (attCb c false s0.calls s0.now a).1 ++
        (attsCb c r (attCb c false s0.calls s0.now a).2 t1 as).1 ++
        finalCb c (attsCb c r (attCb c false s0.calls s0.now a).2 t1 as).2 (tK + r) legal te body := by
  intro r t1 i1 o1 tK iK tEnd
  have hT := selectTimeout_pos c hacc
  obtain ⟨hoa, hol⟩ := List.forall_mem_cons.1 hok
  obtain ⟨hfa, hfl⟩ := List.forall_mem_cons.1 hfl
  obtain ⟨s1, a_run, a_wait, a_dials, a_idx, a_now, a_open, a_net, a_cb, a_calls⟩ :=
    attempt_spec c hq hT hiv hr (prologue s0) false a _ rfl hp0 rfl (Or.inl hs0) hl0 hd hoa hfa (le_of_final_le hz)
  obtain ⟨sF, f_run, f_hdt, f_he, -, -, -, f_now, f_net, f_cb⟩ :=
    rl_mixed c hq hT hiv hr legal te body hleg hk hfuel as s1 c.fuel a_wait a_dials hol hfl hfuel2 (by rw [a_now]; exact hz)
  have hrun : runForeverO c s0 = (sF.emit (.returned true), .returned true) := by
    rw [runForeverO_eq c s0 hacc hs0, runBody, firstStage, a_run]
    simp only [hr, ne_eq, not_false_eq_true, ↓reduceIte]
    rw [f_run, outcome_done c sF f_hdt, f_he]
  have hF : runForever c s0 = sF.emit (.returned true) := congrArg Prod.fst hrun
  refine ⟨congrArg Prod.snd hrun, ?_, ?_⟩
  · rw [hF, emit_trace, netOnly_append, f_net, f_now, a_net, a_idx, a_now, a_open, List.append_assoc _ [_, _]]
    rfl
  · rw [hF, emit_trace, cbOnly_append, f_cb, a_cb, a_calls, a_now]
    exact List.append_nil _

theorem atts_fail (c : Cfg) (r : Nat) : ∀ (ds : List Dial) (t i : Nat) (calls : Cb → Nat),
    attsEnd r t (ds.map .fail) = t + ds.length * r ∧ attsOpen i none (ds.map .fail) = none ∧
    attsTrace r t i none (ds.map .fail) = retryTrace r t i ds.length ∧
    attsCb c r calls t (ds.map .fail) = ([], calls) := by
  intro ds
  induction ds with
  | nil =>
    intro t i calls
    exact ⟨by simp [attsEnd], rfl, rfl, rfl⟩
  | cons d l ih =>
    intro t i calls
    obtain ⟨h1, h2, h3, h4⟩ := ih (t + r) (i + 1) calls
    refine ⟨?_, h2, ?_, ?_⟩
    · simp only [List.map_cons, attsEnd, attEnd, h1, List.length_cons, Nat.succ_mul]
      omega
    · simp only [List.map_cons, attsTrace, attEnd, attOpen, attClose, relTrace, h3, List.length_cons, retryTrace]
      rfl
    · simp only [List.map_cons, attsCb, attCb, attEnd, ↓reduceIte, h4, List.append_nil]

theorem attOf_sound (d : Dial) (a : Att) (h : attOf d = some a) : a.Ok ∧ a.toDial = d := by
  cases d with
  | refused =>
    cases h
    exact ⟨rfl, rfl⟩
  | rejected st =>
    cases h
    exact ⟨rfl, rfl⟩
  | established evs =>
    simp only [attOf] at h
    split at h
    next te hl =>
      split at h
      next hc =>
        cases h
        obtain ⟨ys, rfl⟩ := List.getLast?_eq_some_iff.1 hl
        simp only [Bool.and_eq_true, List.all_eq_true, List.dropLast_concat] at hc ⊢
        exact ⟨⟨hc.2, hc.1⟩, rfl⟩
      next => cases h
    next => cases h

theorem attsOf_sound : ∀ (ds : List Dial) (as : List Att), attsOf ds = some as →
    (∀ x ∈ as, x.Ok) ∧ as.map Att.toDial = ds := by
  intro ds
  induction ds with
  | nil =>
    intro as h
    cases h
    exact ⟨by simp, rfl⟩
  | cons d l ih =>
    intro as h
    simp only [attsOf] at h
    split at h
    next a as' h1 h2 =>
      cases h
      obtain ⟨o1, o2⟩ := attOf_sound d a h1
      obtain ⟨i1, i2⟩ := ih as' h2
      exact ⟨List.forall_mem_cons.2 ⟨o1, i1⟩, by simp [o2, i2]⟩
    next => cases h

end WS.Lemmas.App
