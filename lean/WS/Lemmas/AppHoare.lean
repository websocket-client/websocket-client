/-
  WS.Lemmas.AppHoare — how the functions of `run_forever` that can call user callbacks end, for ALL worlds, plans,
  schedules and settings.  A run has two phases: before teardown (`Stay`) and after it (`Done`, `Qst`).
  `PostH` lists the ways a function entered in the first phase can end; each function is shown once to end in one of them.
-/
import WS.Lemmas.AppInv
namespace WS.Lemmas.App
open WS WS.Model.App

/-- the on_close handler does not fail (it returns, possibly after calling close()) -/
def CloseOk (c : Cfg) : Prop := ∀ k, c.act .onClose k = .ok ∨ c.act .onClose k = .close

/-- an on_error handler is set and does not fail -/
def ErrOk (c : Cfg) : Prop := c.has .onError = true ∧ ∀ k, c.act .onError k = .ok ∨ c.act .onError k = .close

/-- an error of the run is reported (not a user callback's exception) -/
def isErr : Cb × List Arg → Bool
  | (.onError, [.exn e]) => !(Spec.AppTrace.AExn.isUser e)
  | _ => false

def errsIn (l : List (Cb × List Arg)) : Bool := l.any isErr
def closesIn (l : List (Cb × List Arg)) : Nat := l.countP fun x => x.1 == .onClose

@[simp] theorem errsIn_append (a b : List (Cb × List Arg)) : errsIn (a ++ b) = (errsIn a || errsIn b) := by
  simp [errsIn]
@[simp] theorem closesIn_append (a b : List (Cb × List Arg)) : closesIn (a ++ b) = closesIn a + closesIn b := by
  simp [closesIn]
@[simp] theorem errsIn_nil : errsIn [] = false := rfl
@[simp] theorem closesIn_nil : closesIn [] = 0 := rfl

def _root_.WS.Model.App.R.isHalt {α : Type} : R α → Bool
  | .halt => true
  | _ => false

/-- the state after teardown -/
structure Qst (s : St) : Prop where
  hdt : s.hasDoneTeardown = true
  kr : s.keepRunning = false
  sk : s.sock = none
  pg : s.ping = none
  lp : s.lastPing = 0
  lq : s.lastPong = 0

theorem rawCall_cbs (c : Cfg) (s : St) (cb : Cb) (args : List Arg) : cbs (rawCall c s cb args).1 = cbs s ++ [(cb, args)] := by
  rcases rawCall_fst c s cb args with e | e <;> rw [e]
  · exact cbs_emit_cb _ _ _
  · exact (appClose_frame c _).cb.trans (cbs_emit_cb _ _ _)

/-- `rep`: the report of the callback's own exception to on_error (at most that one event).  An exception leaves `_callback`
    only as KeyboardInterrupt or as what on_error itself raised, which `ErrOk` excludes. -/
theorem callback_spec (c : Cfg) (s : St) (cb : Cb) (args : List Arg) :
    (∃ rep, cbs (callback c s cb args).1 = cbs s ++ ((if c.has cb then [(cb, args)] else []) ++ rep) ∧
       closesIn rep = 0 ∧ errsIn rep = false ∧
       ((c.act cb (s.calls cb) = .ok ∨ c.act cb (s.calls cb) = .close) → rep = [])) ∧
    (∀ e, (callback c s cb args).2 = .exc e → ¬ (c.act cb (s.calls cb) = .ok ∨ c.act cb (s.calls cb) = .close) ∧
       (ErrOk c → e = .ki)) := by
  have c1 := rawCall_cbs c s cb args
  rw [callback_eq]
  cases c.has cb with
  | false => exact ⟨⟨[], (List.append_nil _).symm, rfl, rfl, fun _ => rfl⟩, fun _ h => nomatch h⟩
  | true =>
  rw [if_neg nofun, if_pos rfl]
  by_cases hr : c.act cb (s.calls cb) = .raise
  · have nok : ¬ (c.act cb (s.calls cb) = .ok ∨ c.act cb (s.calls cb) = .close) := by
      rw [hr]
      nofun
    rw [rawCall_raise c s cb args hr] at c1
    rw [if_pos hr]
    cases c.has .onError with
    | true =>
      rw [if_pos rfl]
      refine ⟨⟨[(.onError, [.exn (.user cb (s.calls cb))])], by rw [rawCall_cbs, c1, List.append_assoc], rfl, rfl,
        fun h => (nok h).elim⟩, fun e he => ⟨nok, ?_⟩⟩
      rcases rawCall_exc (Prod.ext rfl he) with ⟨-, ha⟩ | ⟨rfl, -⟩
      · exact fun heo => (heo.2 _).elim (fun h => nomatch h.symm.trans ha) fun h => nomatch h.symm.trans ha
      · exact fun _ => rfl
    | false =>
      rw [if_neg nofun]
      exact ⟨⟨[], c1, rfl, rfl, fun h => (nok h).elim⟩, fun _ h => nomatch h⟩
  · rw [if_neg hr]
    refine ⟨⟨[], c1, rfl, rfl, fun _ => rfl⟩, fun e he => ?_⟩
    rcases rawCall_exc (Prod.ext rfl he) with ⟨-, ha⟩ | ⟨rfl, ha⟩
    · exact absurd ha hr
    · exact ⟨fun h => h.elim (fun h => nomatch h.symm.trans ha) (fun h => nomatch h.symm.trans ha), fun _ => rfl⟩

def onCloseEv (c : Cfg) (a : List Arg) : List (Cb × List Arg) := if c.has .onClose then [(Cb.onClose, a)] else []

abbrev isUser (e : AExn) : Bool := Spec.AppTrace.AExn.isUser e

theorem closesIn_onCloseEv (c : Cfg) (a : List Arg) (h : c.has .onClose = true) : closesIn (onCloseEv c a) = 1 := by
  simp [onCloseEv, h, closesIn]

theorem errsIn_onCloseEv (c : Cfg) (a : List Arg) : errsIn (onCloseEv c a) = false := by
  unfold onCloseEv
  split <;> simp [errsIn, isErr]

/-- from `s` to `s'` only callbacks other than on_close were called, teardown has not begun at `s'`, and, when an on_error
    handler is set and does not fail (`ErrOk`), `has_errored` rose exactly if an error of the run was reported among them -/
def Stay (c : Cfg) (s s' : St) : Prop :=
  s'.hasDoneTeardown = false ∧
    ∃ δ, cbs s' = cbs s ++ δ ∧ closesIn δ = 0 ∧ (ErrOk c → s'.hasErrored = (s.hasErrored || errsIn δ))

/-- the same up to some `s1`, followed by the completed teardown, of which on_close is the one callback -/
def Done (c : Cfg) (s s' : St) : Prop :=
  Qst s' ∧ ∃ s1 a, Stay c s s1 ∧ s'.hasErrored = s1.hasErrored ∧ cbs s' = cbs s1 ++ onCloseEv c a

/-- how a callback-calling function ends whose caller was in the first phase at `s`: the model was cut inside the call; or it
    is still the first phase, and an exception that leaves the function is (with a working on_error) not a user callback's
    own, a value returned satisfies `es`; or teardown has completed, and `st` holds of the result -/
inductive PostH (c : Cfg) (s : St) {α : Type} (st : R α → Prop) (es : St → α → Prop) : St × R α → Prop
  | cut (s' : St) : PostH c s st es (s', .halt)
  | exc {s' : St} {e : AExn} : Stay c s s' → (ErrOk c → isUser e = false) → PostH c s st es (s', .exc e)
  | ok {s' : St} {a : α} : Stay c s s' → es s' a → PostH c s st es (s', .ok a)
  | done {s' : St} {r : R α} : Done c s s' → st r → PostH c s st es (s', r)

section
variable {c : Cfg} {s s1 s' : St}

theorem Stay.refl (h : s.hasDoneTeardown = false) : Stay c s s :=
  ⟨h, [], by simp, rfl, fun _ => by simp⟩

theorem Stay.trans (h1 : Stay c s s1) (h2 : Stay c s1 s') : Stay c s s' := by
  obtain ⟨-, δ1, c1, n1, e1⟩ := h1
  obtain ⟨hd, δ2, c2, n2, e2⟩ := h2
  exact ⟨hd, δ1 ++ δ2, by rw [c2, c1, List.append_assoc], by rw [closesIn_append, n1, n2],
    fun heo => by rw [e2 heo, e1 heo, errsIn_append, Bool.or_assoc]⟩

theorem Stay.done (h1 : Stay c s s1) (h2 : Done c s1 s') : Done c s s' :=
  let ⟨q, s2, a, st, h⟩ := h2
  ⟨q, s2, a, h1.trans st, h⟩

theorem Stay.of_eq (h : Stay c s s1) (hd : s'.hasDoneTeardown = s1.hasDoneTeardown) (hc : cbs s' = cbs s1)
    (he : s'.hasErrored = s1.hasErrored) : Stay c s s' :=
  let ⟨h1, δ, c1, n1, e1⟩ := h
  ⟨hd.trans h1, δ, hc.trans c1, n1, fun heo => he.trans (e1 heo)⟩

theorem _root_.WS.Lemmas.App.Low.stay (l : Low c s1 s') (h : Stay c s s1) : Stay c s s' :=
  h.of_eq l.frame.hdt l.frame.cb l.frame.he

theorem PostH.after {α : Type} {st : R α → Prop} {es : St → α → Prop} {x : St × R α} (h : PostH c s1 st es x)
    (h0 : Stay c s s1) : PostH c s st es x := by
  cases h with
  | cut s2 => exact .cut s2
  | exc h1 hu => exact .exc (h0.trans h1) hu
  | ok h1 hes => exact .ok (h0.trans h1) hes
  | done h1 hst => exact .done (h0.done h1) hst

end

/-- `δ`: the callback events appended from `s` to `s'`; the disjuncts: teardown not begun / completed -/
def Post (c : Cfg) (s s' : St) (ex : Option AExn) (strict : Prop) (extraStay : Prop) : Prop :=
  ∃ δ, cbs s' = cbs s ++ δ ∧
    (ErrOk c → s'.hasErrored = (s.hasErrored || errsIn δ) ∧ ∀ e, ex = some e → isUser e = false) ∧
    ((s'.hasDoneTeardown = false ∧ closesIn δ = 0 ∧ extraStay) ∨
     (Qst s' ∧ (∃ δ1 a, δ = δ1 ++ onCloseEv c a ∧ closesIn δ1 = 0) ∧ strict))

theorem Post.of_eq {c : Cfg} {s s0 s' : St} {ex : Option AExn} {st es : Prop}
    (hcb : cbs s0 = cbs s) (hhe : s0.hasErrored = s.hasErrored) (h : Post c s0 s' ex st es) : Post c s s' ex st es := by
  obtain ⟨δ, hc, hl, h⟩ := h
  exact ⟨δ, by rw [hc, hcb], fun heo => by rw [← hhe]; exact hl heo, h⟩

theorem teardown_P (c : Cfg) (hco : CloseOk c) (s : St) (frame : Option Bytes) (hp : s.hasDoneTeardown = false) :
    ∃ s', teardown c s frame = (s', .halt) ∨
      (teardown c s frame = (s', .ok ()) ∧ Qst s' ∧ s'.hasErrored = s.hasErrored ∧
        ∃ a, cbs s' = cbs s ++ onCloseEv c a) := by
  rcases teardown_step c s frame with ⟨hd, _⟩ | ⟨s1, s2, l1, ⟨p1, z1, z2⟩, l2, e | ⟨sk, e⟩⟩
  · rw [hp] at hd
    cases hd
  · exact ⟨s2, .inl e⟩
  · rw [e]
    have f1 := l1.frame
    have f2 := l2.frame
    obtain ⟨⟨rep, c4, -, -, hrep⟩, o4⟩ := callback_spec c s2 .onClose (closeArgs c frame)
    have m4 := callback_mono c s2 .onClose (closeArgs c frame)
    have hok := hco (s2.calls .onClose)
    obtain rfl := hrep hok
    generalize callback c s2 .onClose (closeArgs c frame) = y at m4 c4 o4 ⊢
    obtain ⟨s4, r4⟩ := y
    cases r4 with
    | halt => exact ⟨s4, .inl rfl⟩
    | exc e => exact ((o4 e rfl).1 hok).elim
    | ok u =>
      have m := f2.toMono.trans m4
      refine ⟨s4, .inr ⟨rfl, ⟨m.hdt.trans f1.hdt, m.off rfl, m4.sn sk, m.pn p1,
        (m.zl p1 z1 z2).1, (m.zl p1 z1 z2).2⟩, m.he.trans f1.he, closeArgs c frame, ?_⟩⟩
      rw [c4, f2.cb, List.append_nil]
      exact congrArg (· ++ _) f1.cb

theorem teardown_H (c : Cfg) (hco : CloseOk c) {s0 s : St} (frame : Option Bytes) (st : Stay c s0 s) :
    ∃ s', teardown c s frame = (s', .halt) ∨ (teardown c s frame = (s', .ok ()) ∧ Done c s0 s') := by
  obtain ⟨s', h | ⟨h, q, hhe, a, hca⟩⟩ := teardown_P c hco s frame st.1
  · exact ⟨s', .inl h⟩
  · exact ⟨s', .inr ⟨h, q, s, a, st, hhe, hca⟩⟩

/-- handleDisconnect and what is built on it: a normal return with the loop still wanted has set `has_errored` -/
abbrev SockPost (c : Cfg) (s : St) : St × R Unit → Prop :=
  PostH c s (fun _ => True) fun s' _ => s'.keepRunning = true → s'.hasErrored = true

/-- `hrc`: with `reconnecting=True` nothing is reported, so for `Stay` `has_errored` must be up already (it never falls);
    `hu`: `e` is an error of the run, not a callback's own exception -/
theorem handleDisconnect_P (c : Cfg) (hco : CloseOk c) {s0 s : St} (e : AExn) (rc : Bool) (st : Stay c s0 s)
    (hrc : ErrOk c → rc = true → s0.hasErrored = true) (hu : ErrOk c → isUser e = false) :
    SockPost c s0 (handleDisconnect c s e rc) := by
  have td : ∀ {s1 : St}, Stay c s0 s1 → SockPost c s0 (teardown c s1 none) := fun st1 => by
    obtain ⟨s', h | ⟨h, dn⟩⟩ := teardown_H c hco none st1 <;> rw [h]
    · exact .cut s'
    · exact .done dn trivial
  unfold handleDisconnect
  split
  · -- the application has closed: straight to teardown, nothing reported
    exact td st
  unfold handleDisconnectBody
  simp only [gen_dcErr, gen_dcStops, ↓reduceIte]
  have f1 := (low_stopPing c { s with hasErrored := true }).frame
  generalize stopPing { s with hasErrored := true } = s1 at f1 ⊢
  -- after the error report (or none when reconnecting)
  have key : ∀ s2 : St, Stay c s0 s2 → s2.hasErrored = true → SockPost c s0 (afterReport c s2 e) := by
    intro s2 st2 he2
    unfold afterReport
    split
    · -- KeyboardInterrupt: teardown, then it propagates
      obtain ⟨s', h | ⟨h, dn⟩⟩ := teardown_H c hco none st2 <;> rw [h]
      · exact .cut s'
      · exact .done dn trivial
    · split
      · exact .ok st2 fun _ => he2
      · exact td st2
  cases rc with
  | true =>
    simp only [Bool.not_true, Bool.false_eq_true, ↓reduceIte]
    obtain ⟨hd, δ, hc, hn, -⟩ := st
    -- nothing is reported: `has_errored`, set now, must have been up before (`hrc`)
    have he1 : ErrOk c → s1.hasErrored = (s0.hasErrored || errsIn δ) := fun heo => by
      rw [f1.he, hrc heo rfl]
      rfl
    exact key s1 ⟨f1.hdt.trans hd, δ, f1.cb.trans hc, hn, he1⟩ f1.he
  | false =>
    simp only [Bool.not_false, ↓reduceIte]
    obtain ⟨⟨rep, hc, n0, e0, -⟩, ho⟩ := callback_spec c s1 .onError [.exn e]
    have m := callback_mono c s1 .onError [.exn e]
    have st2 : Stay c s0 (callback c s1 .onError [.exn e]).1 := by
      refine st.trans ⟨(m.hdt.trans f1.hdt).trans st.1, _, by rw [hc, f1.cb]; rfl, ?_, fun heo => ?_⟩
      · rw [closesIn_append, n0]
        split <;> rfl
      · -- `has_errored` is set, and the report of `e` counts as an error of the run (`hu`)
        rw [m.he, f1.he, errsIn_append, e0, heo.1]
        simp [errsIn, isErr, hu heo]
    generalize callback c s1 .onError [.exn e] = x at m ho st2 ⊢
    obtain ⟨s2, r2⟩ := x
    cases r2 with
    | halt => exact .cut s2
    | exc e' => exact .exc st2 fun heo => by rw [(ho e' rfl).2 heo]; rfl
    | ok u =>
      cases u
      exact key s2 st2 (m.he.trans f1.he)

theorem isErr_other {cb : Cb} (a : List Arg) (h : cb ≠ .onError) : isErr (cb, a) = false := by
  cases cb <;> first | rfl | exact absurd rfl h

/-- a callback other than on_close and on_error, and the two of a message: they end in the first phase -/
abbrev CbPost (c : Cfg) (s : St) : St × R Unit → Prop := PostH c s (fun _ => False) fun _ _ => True

theorem callback_P (c : Cfg) {s0 s : St} (cb : Cb) (args : List Arg) (h1 : cb ≠ .onClose) (h2 : cb ≠ .onError)
    (st : Stay c s0 s) : CbPost c s0 (callback c s cb args) := by
  obtain ⟨⟨rep, hc, n0, e0, -⟩, he⟩ := callback_spec c s cb args
  have m := callback_mono c s cb args
  have st1 : Stay c s0 (callback c s cb args).1 := by
    refine st.trans ⟨m.hdt.trans st.1, _, hc, ?_, fun _ => ?_⟩
    · rw [closesIn_append, n0]
      split <;> simp [closesIn, h1]
    · -- `has_errored` is untouched, and `cb` is no report
      rw [m.he, errsIn_append, e0]
      split <;> simp [errsIn, isErr_other _ h2]
  generalize callback c s cb args = x at st1 he ⊢
  obtain ⟨s1, r⟩ := x
  cases r with
  | halt => exact .cut s1
  | ok u => exact .ok st1 trivial
  | exc e =>
    exact .exc st1 fun heo => by rw [(he e rfl).2 heo]; rfl

theorem deliver_P (c : Cfg) {s0 s : St} (op : Nat) (p : Bytes) (frag : Bool) (st : Stay c s0 s) :
    CbPost c s0 (deliverMessage c s op p frag) := by
  unfold deliverMessage
  simp only [gen_msgOpcode, gen_dataFirst, ↓reduceIte]
  have h := callback_P c .onData [dataArg op p, .int op, .bool true] nofun nofun st
  generalize callback c s .onData [dataArg op p, .int op, .bool true] = x at h ⊢
  cases h with
  | cut s1 => exact .cut s1
  | exc st1 hu => exact .exc st1 hu
  | ok st1 _ => exact callback_P c .onMessage _ nofun nofun st1
  | done _ f => exact f.elim

@[simp] theorem asRead_halt (v : Bool) (x : St × R Unit) : (asRead v x).2.isHalt = x.2.isHalt := by
  rcases x with ⟨s, r⟩
  cases r <;> rfl

/-- the dispatcher loop: a normal return before teardown means the loop condition is off -/
abbrev LoopPost (c : Cfg) (s : St) : St × R Unit → Prop :=
  PostH c s (· = .ok ()) fun s' _ => s'.keepRunning = false

/-- `x`: what `read()` did before it returned True, or `(s, .ok ())` when it was not called -/
theorem afterRead_true (c : Cfg) {s0 : St} {k : St → St × R Unit} (hk : ∀ s1, Stay c s0 s1 → LoopPost c s0 (k s1))
    {x : St × R Unit} (hx : CbPost c s0 x) : LoopPost c s0 (afterRead c k (asRead true x)) := by
  cases hx with
  | cut s1 => exact .cut s1
  | exc st hu => exact .exc st hu
  | done _ f => exact f.elim
  | ok st _ =>
    simp only [asRead, afterRead]
    split
    · exact .exc st fun _ => rfl
    · exact hk _ st

/-- `read()` in the loop: it returns a falsy value exactly if teardown has completed -/
theorem read_P (c : Cfg) (hco : CloseOk c) {s0 s : St} {k : St → St × R Unit}
    (hk : ∀ s1, Stay c s0 s1 → LoopPost c s0 (k s1)) (st : Stay c s0 s) :
    LoopPost c s0 (afterRead c k (Model.App.read c s)) := by
  obtain ⟨s1, l, e⟩ := read_step c s
  have st1 := l.stay st
  generalize Model.App.read c s = x at e ⊢
  cases e with
  | cut => exact .cut _
  | exc hu => exact .exc st1 fun _ => hu
  | call h1 h2 => exact afterRead_true c hk (callback_P c _ _ h1 h2 st1)
  | msg => exact afterRead_true c hk (deliver_P c _ _ _ st1)
  | closed =>
    obtain ⟨s', h | ⟨h, dn⟩⟩ := teardown_H c hco _ st1 <;> rw [h]
    · exact .cut s'
    · exact .done dn rfl

theorem dispLoop_P (c : Cfg) (hco : CloseOk c) {s0 : St} (n : Nat) : ∀ s, Stay c s0 s → LoopPost c s0 (dispLoop c n s) := by
  -- strong induction: `fun_cases` below splits `n` itself
  induction n using Nat.strongRecOn with | _ n ih => ?_
  intro s st
  have l := low_select c s
  fun_cases dispLoop c n s
  · exact .cut _  -- out of fuel
  · exact .ok st (by simpa using ‹(!_) = true›)  -- loop condition off
  · exact .exc st fun _ => rfl  -- TLS and no socket
  · exact .cut _  -- cut in `select`
  · split  -- `select` returned: readable, or timed out
    · exact read_P c hco (ih _ (Nat.lt_succ_self _)) ((l.of_eq ‹_›).stay st)
    · exact afterRead_true c (ih _ (Nat.lt_succ_self _)) (x := (_, .ok ())) (.ok ((l.of_eq ‹_›).stay st) trivial)

theorem setSock_P (c : Cfg) (hco : CloseOk c) (s : St) (rc : Bool) (hp : s.hasDoneTeardown = false)
    (hpre : ErrOk c → rc = true → s.hasErrored = true) : SockPost c s (setSock c s rc) := by
  unfold setSock
  have st0 := (low_release c s rc).stay (Stay.refl hp)
  generalize release s rc = s0 at st0 ⊢
  obtain ⟨w, -, l, hr⟩ := connect_step c s0
  have st1 := l.stay (st0.of_eq rfl (cbs_emit_other _ _ nofun) rfl)
  generalize connect s0 = x at st1 hr ⊢
  obtain ⟨s1, r1⟩ := x
  unfold afterConnect
  obtain ⟨e, rfl, hu⟩ | rfl := hr
  · exact handleDisconnect_P c hco e rc st1 hpre fun _ => hu
  simp only []
  have st2 : Stay c s (if c.iv ≠ 0 then startPing c s1 else s1) := by
    split
    · exact st1.of_eq rfl (cbs_emit_other _ _ nofun) rfl
    · exact st1
  have hne : openCb c rc ≠ .onClose ∧ openCb c rc ≠ .onError := by
    unfold openCb
    split <;> simp
  have h3 := callback_P c (openCb c rc) [] hne.1 hne.2 st2
  generalize callback c _ (openCb c rc) [] = y at h3 ⊢
  unfold afterOpen
  cases h3 with
  | cut s3 => exact .cut s3
  | exc st3 hu => exact handleDisconnect_P c hco _ rc st3 hpre hu
  | done _ f => exact f.elim
  | ok st3 _ =>
    simp only []
    split
    · exact handleDisconnect_P c hco _ rc st3 hpre fun _ => rfl
    · unfold afterLoop
      have h4 := dispLoop_P c hco c.fuel _ st3
      generalize dispLoop c c.fuel _ = z at h4 ⊢
      cases h4 with
      | cut s4 => exact .cut s4
      | exc st4 hu => exact handleDisconnect_P c hco _ rc st4 hpre hu
      | ok st4 hk => exact .ok st4 fun hkr => by rw [hk] at hkr; cases hkr
      | done dn rok =>
        cases rok
        exact .done dn trivial

theorem rlNext_P {c : Cfg} {k : St → St × R Unit} {s0 : St} {x : St × R Unit} (hx : SockPost c s0 x)
    (hk : ∀ s, SockPost c s0 (s, .ok ()) → SockPost c s0 (k s)) : SockPost c s0 (rlNext k x) := by
  fun_cases rlNext k x
  · exact hk _ hx
  · exact hx

/-- the reconnect loop entered after anything `setSock` can leave: with teardown done its condition is off -/
theorem reconnectLoop_P (c : Cfg) (hco : CloseOk c) : ∀ (n : Nat) (s0 s : St),
    SockPost c s0 (s, .ok ()) → SockPost c s0 (reconnectLoop c n s) := by
  intro n
  induction n with
  | zero =>
    intro s0 s _
    exact .cut _
  | succ m ih =>
    intro s0 s post
    rcases reconnectLoop_step c m s with ⟨_, e⟩ | ⟨s2, hk, l, e | e⟩ <;> rw [e]
    · exact post
    · exact .cut s2
    · cases post with
      | ok st hpre =>
        exact rlNext_P ((setSock_P c hco s2 true (l.frame.hdt.trans st.1) fun _ _ =>
          l.frame.he.trans (hpre hk)).after (l.stay st)) (ih s0)
      | done dn _ =>
        rw [dn.1.kr] at hk
        cases hk

theorem firstStage_P (c : Cfg) (hco : CloseOk c) (s : St) (hp : s.hasDoneTeardown = false) :
    SockPost c s (firstStage c s) := by
  rw [firstStage_eq]
  refine rlNext_P (setSock_P c hco s false hp nofun) fun s1 post => ?_
  split
  · exact reconnectLoop_P c hco c.fuel s s1 post
  · exact post

theorem runBody_spec (c : Cfg) (hco : CloseOk c) (s : St) (hp : s.hasDoneTeardown = false) :
    ∃ s', runBody c s = (s', .halt) ∨ (runBody c s = (s', .ok ()) ∧ Done c s s') := by
  unfold runBody
  have stage := firstStage_P c hco s hp
  generalize firstStage c s = x at stage ⊢
  unfold afterBody
  simp only [gen_finally, ↓reduceIte]
  -- teardown, in the except clause or in `finally`, whichever comes first; after it, teardown does nothing
  cases stage with
  | cut s1 => exact ⟨s1, .inl rfl⟩
  | ok st _ => exact teardown_H c hco none st
  | exc st _ =>
    simp only []
    obtain ⟨s', h | ⟨h, dn⟩⟩ := teardown_H c hco none st <;> rw [h]
    · exact ⟨s', .inl rfl⟩
    · exact ⟨s', .inr ⟨teardown_Q c s' none dn.1.hdt, dn⟩⟩
  | @done s1 r dn _ =>
    have h := teardown_Q c s1 none dn.1.hdt
    cases r with
    | halt => exact ⟨s1, .inl rfl⟩
    | ok u => exact ⟨s1, .inr ⟨h, dn⟩⟩
    | exc e => exact ⟨s1, .inr ⟨by simp only [h], dn⟩⟩

theorem returned_spec (c : Cfg) (hco : CloseOk c) (s0 : St) (b : Bool) (h : (runForeverO c s0).2 = .returned b) :
    Qst (runForever c s0) ∧ ∃ δ a, cbs (runForever c s0) = cbs s0 ++ δ ++ onCloseEv c a ∧ closesIn δ = 0 ∧
      (ErrOk c → b = errsIn δ) := by
  revert h
  unfold runForever
  fun_cases runForeverO c s0
  · exact nofun  -- arguments refused
  · exact nofun  -- a socket is left over
  · rename_i s1 hb  -- the body returned
    intro h
    cases h
    obtain ⟨s', e | ⟨e, q, s2, a, ⟨-, δ, hc, hn, he⟩, hhe, hca⟩⟩ := runBody_spec c hco (prologue s0) rfl
    · cases hb.symm.trans e
    · cases hb.symm.trans e
      exact ⟨⟨q.hdt, q.kr, q.sk, q.pg, q.lp, q.lq⟩, δ, a,
        (cbs_emit_other s1 (.returned _) nofun).trans (hca.trans (congrArg (· ++ _) hc)), hn,
        fun heo => by rw [hhe, he heo]; simp [prologue]⟩
  · exact nofun  -- it raised
  · exact nofun  -- cut

end WS.Lemmas.App
