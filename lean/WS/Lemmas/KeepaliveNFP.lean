/-
  WS.Lemmas.KeepaliveNFP — no false positive: the invariant of the keepalive loop when the peer answers every ping
  within the timeout — whatever else it sends (data, further or unsolicited pongs).
-/
import WS.Lemmas.Keepalive
namespace WS.Lemmas.Keepalive
open WS.Model.Keepalive

abbrev Sorted (l : List (Nat × Kind)) : Prop := List.Pairwise (fun x y => x.1 ≤ y.1) l

theorem target_le_arr (to : Nat) (s : St) (hs : Sorted s.arr) (hr : ready s = false) : ∀ y ∈ s.arr, target to s ≤ y.1 := by
  intro y hy
  unfold target
  unfold ready at hr
  split
  · rename_i a k rest harr
    rw [harr] at hs hy
    simp only [harr, decide_eq_false_iff_not] at hr
    have hay : a ≤ y.1 := by
      rcases List.mem_cons.mp hy with rfl | hh
      · exact Nat.le_refl _
      · exact (List.pairwise_cons.mp hs).1 y hh
    split <;> omega
  · rename_i harr
    rw [harr] at hy
    cases hy

/-- the peer answers every ping: sorted arrivals in which every ping (at `k·iv`, k ≥ 2) whose answer window lies before
    the horizon is followed by a pong within `to`. Nothing is assumed about the other arrivals. -/
structure Answering (iv to horizon : Nat) (arr0 : List (Nat × Kind)) : Prop where
  sorted : Sorted arr0
  answered : ∀ k, 2 ≤ k → k * iv + to < horizon → ∃ a, (a, Kind.pong) ∈ arr0 ∧ k * iv < a ∧ a ≤ k * iv + to

/-- invariant of the loop, with the clock at `τ`: what has not arrived by `τ` is still to be read, the ping thread is not
    late, and either the last timed ping has been answered in time (`last_ping_tm ≤ last_pong_tm ≤ last_ping_tm + to`), or
    it is outstanding, its answer window is still open, closes before the next ping is due, and its answer is among the
    arrivals to come. -/
structure AInv (iv to horizon : Nat) (arr0 : List (Nat × Kind)) (τ : Nat) (s : St) : Prop where
  sorted : Sorted s.arr
  pend : ∀ x ∈ arr0, τ < x.1 → x ∈ s.arr
  pinv : PInv iv s
  due : τ ≤ s.wake
  hz : τ ≤ horizon
  qn : s.lastPong ≤ τ
  st : (s.lastPing ≤ s.lastPong ∧ s.lastPong ≤ s.lastPing + to) ∨
       (s.lastPong < s.lastPing ∧ s.lastPing ≤ τ ∧ τ ≤ s.lastPing + to ∧ s.lastPing + to < s.wake ∧
         (s.lastPing + to < horizon → ∃ a, (a, Kind.pong) ∈ s.arr ∧ a ≤ s.lastPing + to))

variable {iv to horizon : Nat} {arr0 : List (Nat × Kind)} {τ : Nat} {s : St}

theorem ainv_good (h : AInv iv to horizon arr0 s.now s) : checkFails to s = false := by
  rw [Bool.eq_false_iff, Ne, checkFails_iff]
  rcases h.st with ⟨h1, h2⟩ | ⟨_, _, h3, _⟩ <;> omega

theorem ainv_frame (h : AInv iv to horizon arr0 τ s) (r : List Bool) (t : Nat) :
    AInv iv to horizon arr0 τ { s with sched := r, now := t } :=
  ⟨h.sorted, h.pend, h.pinv, h.due, h.hz, h.qn, h.st⟩

theorem ainv_tick (h : AInv iv to horizon arr0 τ s) {t : Nat} (h1 : τ ≤ t) (h2 : t ≤ s.wake) (h3 : t ≤ horizon)
    (h4 : ∀ y ∈ s.arr, t ≤ y.1) : AInv iv to horizon arr0 t s := by
  refine ⟨h.sorted, fun x hx hlt => h.pend x hx (Nat.lt_of_le_of_lt h1 hlt), h.pinv, h2, h3, Nat.le_trans h.qn h1, ?_⟩
  rcases h.st with hst | ⟨a1, a2, a3, a4, a5⟩
  · exact Or.inl hst
  · refine Or.inr ⟨a1, Nat.le_trans a2 h1, ?_, a4, a5⟩
    -- the sleep ends at the answer's arrival at the latest (or at the horizon)
    by_cases hh : s.lastPing + to < horizon
    · obtain ⟨b, hb, hb2⟩ := a5 hh
      exact Nat.le_trans (h4 _ hb) hb2
    · exact Nat.le_trans h3 (Nat.le_of_not_lt hh)

/-- a ping falls due at the clock's tick: it is stamped only if the previous one has been answered, and then its own
    answer is still to come; none falls due while one is outstanding (the window closes before the next tick) -/
theorem ainv_fire (hto : to < iv) (hr : Answering iv to horizon arr0) (h : AInv iv to horizon arr0 τ s)
    (hw : τ = s.wake) : AInv iv to horizon arr0 τ (fire iv s) := by
  subst hw
  have hp := pinv_fire iv s h.pinv
  rw [fire_eq] at hp ⊢
  refine ⟨h.sorted, h.pend, hp, Nat.le_add_right .., h.hz, h.qn, ?_⟩
  rcases h.st with ⟨h1, h2⟩ | ⟨_, _, h3, h4, _⟩
  · cases hf : s.first with
    | true =>
      simp only [true_or, ↓reduceIte]
      exact Or.inl ⟨h1, h2⟩
    | false =>
      simp only [Bool.false_eq_true, false_or, if_neg (Nat.not_lt.mpr h1)]
      by_cases heq : s.lastPong = s.wake
      · exact Or.inl ⟨Nat.le_of_eq heq.symm, Nat.le_trans h.qn (Nat.le_add_right ..)⟩
      · refine Or.inr ⟨Nat.lt_of_le_of_ne h.qn heq, Nat.le_refl _, Nat.le_add_right .., Nat.add_lt_add_left hto _,
          fun hh => ?_⟩
        have hw := h.pinv.2
        simp only [hf, Bool.false_eq_true, ↓reduceIte] at hw
        obtain ⟨a, hmem, ha1, ha2⟩ := hr.answered (s.pings.length + 2) (Nat.le_add_left ..) (hw ▸ hh)
        rw [← hw] at ha1 ha2
        exact ⟨a, h.pend _ hmem ha1, ha2⟩
  · exact absurd h3 (Nat.not_le.mpr h4)

/-- reading at the clock's tick: a pong answers the outstanding ping inside its window, or is not timed -/
theorem ainv_consume (h : AInv iv to horizon arr0 τ s) (hn : τ = s.now) : AInv iv to horizon arr0 τ (consume s) := by
  subst hn
  rcases consume_cases s with ⟨-, e⟩ | ⟨a, k, rest, harr, hd, e⟩ <;> rw [e]
  · exact h
  have hsorted := h.sorted
  rw [harr] at hsorted
  refine ⟨(List.pairwise_cons.mp hsorted).2, fun x hx hlt => ?_, h.pinv, h.due, h.hz, ?_, ?_⟩
  · have := h.pend x hx hlt
    rw [harr] at this
    rcases List.mem_cons.mp this with rfl | hm
    · omega
    · exact hm
  · simp only []
    split
    · exact Nat.le_refl _
    · exact h.qn
  · simp only []
    rcases h.st with ⟨h1, h2⟩ | ⟨h1, h2, h3, h4, h5⟩
    · rw [if_neg (by omega)]
      exact Or.inl ⟨h1, h2⟩
    · cases k with
      | pong =>
        rw [if_pos ⟨rfl, h1⟩]
        exact Or.inl ⟨h2, h3⟩
      | data =>
        rw [if_neg (by simp)]
        refine Or.inr ⟨h1, h2, h3, h4, fun hh => ?_⟩
        obtain ⟨b, hb, hb2⟩ := h5 hh
        rw [harr] at hb
        rcases List.mem_cons.mp hb with hc | hc
        · cases hc
        · exact ⟨b, hc, hb2⟩

/-- the main loop sleeps until `t`, before which nothing arrives: the clock goes from ping to ping (each due ping is sent
    at its own tick) and then to `t` -/
theorem ainv_advance (hto : to < iv) (hr : Answering iv to horizon arr0) {t : Nat} (ht : t ≤ horizon) :
    ∀ (n : Nat) (s : St) (τ : Nat), AInv iv to horizon arr0 τ s → τ ≤ t → (∀ y ∈ s.arr, t ≤ y.1) → t < s.wake + n →
      AInv iv to horizon arr0 t (advance iv n s t) := by
  intro n
  induction n with
  | zero =>
    intro s τ h h1 h2 h3
    exact ainv_tick h h1 (Nat.le_of_lt h3) ht h2
  | succ m ih =>
    intro s τ h h1 h2 h3
    rw [advance]
    split
    · rename_i hlt  -- a ping due before `t`: the clock goes to its tick first
      have hw : AInv iv to horizon arr0 s.wake s :=
        ainv_tick h h.due (Nat.le_refl _) (Nat.le_trans (Nat.le_of_lt hlt) ht) fun y hy =>
          Nat.le_trans (Nat.le_of_lt hlt) (h2 y hy)
      refine ih _ _ (ainv_fire hto hr hw rfl) (Nat.le_of_lt hlt) ?_ ?_ <;> rw [fire_eq]
      · exact h2
      · simp only []
        omega
    · rename_i hge
      have ht' := ainv_tick h h1 (Nat.le_of_not_lt hge) ht h2
      split
      · rename_i heq  -- one due at `t`, by the schedule: the thread first, main first, exhausted
        split
        · exact ainv_fire hto hr (ainv_frame ht' _ _) heq.symm
        · exact ainv_frame ht' _ _
        · exact ht'
      · exact ht'  -- none due

theorem ainv_iter (hto : to < iv) (hr : Answering iv to horizon arr0) (h : AInv iv to horizon arr0 s.now s)
    (hcut : ready s = false → target to s ≤ horizon) :
    AInv iv to horizon arr0 (target to s) (iter iv to s) := by
  unfold iter
  split
  · rename_i hrd
    rw [target_ready to s hrd]
    exact ainv_consume h rfl
  · rename_i hrd
    have hr' : ready s = false := by simpa using hrd
    obtain ⟨htg, htl⟩ := target_bounds to s
    have adv := ainv_advance hto hr (hcut hr') (target to s + 2) s _ h htg (target_le_arr to s h.sorted hr') (by omega)
    exact ainv_consume (ainv_frame adv _ _) rfl

theorem ainv_init (hs : Sorted arr0) (sched : List Bool) : AInv iv to horizon arr0 0 (init iv arr0 sched) :=
  ⟨hs, fun _ hx _ => hx, pinv_init iv arr0 sched, Nat.zero_le _, Nat.zero_le _, Nat.le_refl _,
    Or.inl ⟨Nat.le_refl _, Nat.zero_le _⟩⟩

theorem loop_no_report (hto : to < iv) (hr : Answering iv to horizon arr0) :
    ∀ (fuel : Nat) (s : St), AInv iv to horizon arr0 s.now s → (loop iv to horizon fuel s).2 = none := by
  intro fuel
  induction fuel with
  | zero =>
    intro s _
    rfl
  | succ n ih =>
    intro s h
    rw [loop]
    split
    · rfl
    · rename_i hc
      have h' := ainv_iter hto hr h (by simpa using hc)
      rw [← (iter_progress iv to s).1] at h'
      simp only [ainv_good h', Bool.false_eq_true, ↓reduceIte]
      exact ih _ h'

end WS.Lemmas.Keepalive
