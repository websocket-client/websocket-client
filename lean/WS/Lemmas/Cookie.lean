/-
  WS.Lemmas.Cookie — order facts for `sorted`, and the refinement between the jar (nested dicts,
  in-place update) and the Spec's store (latest wins): both are tables of one finite map.
-/
import WS.Lemmas.Py
import WS.Spec.CookieSpec
import WS.Model.Cookie
namespace WS.Lemmas.Cookie
open WS WS.Py
open WS.Model.Cookie

theorem strLe_eq : Model.Cookie.strLe = Spec.Cookie.strLe := by
  funext a b
  induction a generalizing b with
  | nil => cases b <;> rfl
  | cons x xs ih => cases b with
    | nil => rfl
    | cons y ys => simp [Model.Cookie.strLe, Spec.Cookie.strLe, ih]

theorem strLe_iff (a b : Str) : strLe a b = true ↔ a ≤ b := by
  induction a generalizing b with
  | nil => simp [strLe]
  | cons x xs ih =>
    cases b with
    | nil => simp [strLe]
    | cons y ys =>
      have hlt : x.toNat < y.toNat ↔ x < y := by
        rw [Char.lt_def, UInt32.lt_iff_toNat_lt]
        rfl
      simp only [strLe, Bool.or_eq_true, Bool.and_eq_true, decide_eq_true_eq, beq_iff_eq, hlt,
        Char.toNat_inj, ih, List.cons_le_cons_iff]

theorem pairLe_iff (a b : Str × Str) :
    pairLe a b = true ↔ a.1 ≤ b.1 ∧ (a.1 = b.1 → a.2 ≤ b.2) := by
  unfold pairLe
  by_cases h : a.1 = b.1
  · simp [h, strLe_iff]
  · simp [h, strLe_iff]

theorem pairLe_total (a b : Str × Str) : (pairLe a b || pairLe b a) = true := by
  rw [Bool.or_eq_true, pairLe_iff, pairLe_iff]
  by_cases h : a.1 = b.1
  · simpa [h, List.le_refl] using List.le_total a.2 b.2
  · simpa [h, Ne.symm h] using List.le_total a.1 b.1

theorem pairLe_trans (a b c : Str × Str) (h1 : pairLe a b = true) (h2 : pairLe b c = true) :
    pairLe a c = true := by
  rw [pairLe_iff] at *
  refine ⟨List.le_trans h1.1 h2.1, fun hac => ?_⟩
  have hab : a.1 = b.1 := List.le_antisymm h1.1 (hac ▸ h2.1)
  exact List.le_trans (h1.2 hab) (h2.2 (hab ▸ hac))

/-- `m` where it is defined, else `g`. -/
def over {κ β : Type} (m g : κ → Option β) : κ → Option β := fun k => (m k).or (g k)

theorem over_over {κ β : Type} (m g : κ → Option β) : over m (over m g) = over m g :=
  funext fun k => by
    unfold over
    cases m k <;> rfl

def upd {κ α : Type} [DecidableEq κ] (f : κ → α) (k : κ) (x : α) : κ → α := fun k' => if k' = k then x else f k'

section Table
variable {κ β : Type} [BEq κ]

def slot (l : List (κ × β)) (k : κ) : List (κ × β) := l.filter (·.1 == k)

/-- `l` is a table of the finite map `f`: under each key the one entry `f` gives, or none. This says at
    once that no key occurs twice and what a look-up answers. -/
def TableOf (l : List (κ × β)) (f : κ → Option β) : Prop := ∀ k, slot l k = (f k).toList.map (k, ·)

theorem tableOf_nil : TableOf ([] : List (κ × β)) fun _ => none := fun _ => rfl

theorem TableOf.congr {l : List (κ × β)} {f f'} (h : TableOf l f) (e : ∀ k, f k = f' k) : TableOf l f' :=
  funext e ▸ h

theorem TableOf.reverse {l : List (κ × β)} {f} (h : TableOf l f) : TableOf l.reverse f := fun k => by
  rw [slot, List.filter_reverse, ← slot, h k]
  cases f k <;> rfl

theorem TableOf.mem [LawfulBEq κ] {l : List (κ × β)} {f} (h : TableOf l f) {k : κ} {v : β} (hm : (k, v) ∈ l) :
    f k = some v := by
  have : (k, v) ∈ slot l k := List.mem_filter.mpr ⟨hm, beq_self_eq_true k⟩
  obtain ⟨_, hw, e⟩ := List.mem_map.mp (h k ▸ this)
  cases e
  exact Option.mem_toList.mp hw

theorem TableOf.perm [LawfulBEq κ] [DecidableEq β] {l l' : List (κ × β)} {f} (h : TableOf l f) (h' : TableOf l' f) :
    l.Perm l' :=
  List.perm_iff_count.mpr fun a => by
    have e := congrArg (List.count a) ((h a.1).trans (h' a.1).symm)
    rwa [slot, slot, List.count_filter (by simp), List.count_filter (by simp)] at e

theorem slot_cons [LawfulBEq κ] [DecidableEq κ] (e : κ × β) (r : List (κ × β)) (k : κ) :
    slot (e :: r) k = if e.1 = k then e :: slot r k else slot r k := by
  simp [slot, List.filter_cons]

theorem lookup_eq_slot [LawfulBEq κ] [DecidableEq κ] (l : List (κ × β)) (k : κ) :
    l.lookup k = (slot l k).head?.map Prod.snd := by
  induction l with
  | nil => rfl
  | cons e r ih =>
    rw [slot_cons, List.lookup_cons, ih]
    by_cases h : e.1 = k
    · simp [h]
    · have : (k == e.1) = false := beq_eq_false_iff_ne.mpr fun e' => h e'.symm
      simp [h, this]

theorem TableOf.dictGet_eq {d : List (Str × β)} {f} (h : TableOf d f) : dictGet d = f := by
  funext k
  rw [dictGet, lookup_eq_slot, h k]
  cases f k <;> rfl

theorem slot_dictSet (d : List (Str × β)) (k k' : Str) (v : β) :
    slot (dictSet d k v) k' = if k' = k then (k, v) :: (slot d k).tail else slot d k' := by
  induction d with
  | nil =>
    rw [dictSet, slot_cons]
    simp [slot, eq_comm]
  | cons e r ih =>
    rw [dictSet]
    split
    · next h =>
      subst h
      by_cases h' : k' = e.1
      · simp [slot_cons, h']
      · simp [slot_cons, h', Ne.symm h']
    · next h =>
      rw [slot_cons, ih, slot_cons, slot_cons, if_neg h]
      by_cases h' : k' = k
      · subst h'
        simp [h]
      · simp [h']

theorem tableOf_dictSet {d : List (Str × β)} {f} (h : TableOf d f) (k : Str) (v : β) :
    TableOf (dictSet d k v) (upd f k (some v)) := by
  intro k'
  rw [slot_dictSet, h, upd]
  split
  · next e =>
    subst e
    cases f k' <;> rfl
  · exact h k'

end Table

/-- the last value assigned to a name stands (look-up in the reversed list). `T`, `assign`: `TableOf`,
    `dictSet`, or the store and `put` under one domain key. -/
theorem fold_over {M : Type} {T : M → (Str → Option Str) → Prop} {assign : M → Str → Str → M}
    (law : ∀ {m g} n v, T m g → T (assign m n v) (upd g n (some v))) (pairs : List (Str × Str)) {m g}
    (h : T m g) : T (pairs.foldl (fun m nv => assign m nv.1 nv.2) m) (over (dictGet pairs.reverse) g) := by
  induction pairs generalizing m g with
  | nil => exact h
  | cons e r ih =>
    obtain ⟨k, v⟩ := e
    refine Eq.mp (congrArg _ (funext fun n => ?_)) (ih (law k v h))
    simp only [over, upd, dictGet, List.reverse_cons, List.lookup_append, List.lookup_singleton, Option.or_assoc,
      beq_iff_eq]
    by_cases hn : n = k <;> simp [hn]

theorem tableOf_update {c all : Cookie} {g a} (hc : TableOf c g) (hall : TableOf all a) :
    TableOf (update c all) (over a g) :=
  hall.reverse.dictGet_eq ▸ fold_over (T := TableOf) (fun n v h => tableOf_dictSet h n v) all hc

theorem getOrNew_eq (jar : Jar) (k : Str) : getOrNew jar k = (dictGet jar k).getD [] := by
  unfold getOrNew
  cases dictGet jar k with
  | none => rfl
  | some c => cases c <;> rfl

open _root_.WS.Spec.Cookie (Store put record storeOf key covers covering Response)

theorem slot_put (s : Store) (k k' : Str × Str) (v : Str) :
    slot (put s k v) k' = if k' = k then [(k, v)] else slot s k' := by
  unfold put slot
  rw [List.filter_append, List.filter_filter]
  by_cases h : k' = k
  · subst h
    simp
  · have : ∀ e ∈ s, (e.1 == k' && e.1 != k) = (e.1 == k') := fun e _ => by
      by_cases he : e.1 = k' <;> simp [he, h]
    rw [List.filter_congr this]
    simp [h, Ne.symm h]

theorem tableOf_put {s : Store} {f} (h : TableOf s f) (k : Str × Str) (v : Str) :
    TableOf (put s k v) (upd f k (some v)) := by
  intro k'
  rw [slot_put, upd]
  split
  · next e =>
    rw [e]
    rfl
  · exact h k'

theorem key_eq (d : Str) : key d = lower (dotted d) := by
  unfold key dotted
  cases d with
  | nil => simp [List.isPrefixOf]
  | cons c cs =>
    by_cases h : c = '.'
    · subst h
      simp [List.isPrefixOf]
    · have : (['.'].isPrefixOf (c :: cs)) = false := by simp [List.isPrefixOf, Ne.symm h]
      rw [this]
      split
      · next heq =>
        cases heq
        exact absurd rfl h
      · rfl

theorem key_dotted (d : Str) : ∃ n, key d = '.' :: n := by
  unfold key
  split <;> exact ⟨_, rfl⟩

/-- generated facts (T): `add` lower-cases the domain before the look-up, `get` sorts pairs. -/
theorem cookie_shape : Gen.cookieLookupLowered = true ∧ Gen.cookieSortsPairs = true := by decide

/-- the jar holds the map `F`: one cookie per domain key (`G`), keys dotted, the cookie under `d` a table
    of `F d`. -/
def Holds (jar : Jar) (F : Str → Str → Option Str) : Prop :=
  ∃ G : Str → Option Cookie, TableOf jar G ∧ ∀ d, TableOf ((G d).getD []) (F d) ∧ (G d ≠ none → ∃ n, d = '.' :: n)

theorem addStep_spec {all : Cookie} {a} (hall : TableOf all a) {jar : Jar} {F} {m : Morsel}
    (hm : m.domain.isEmpty = false) (hj : Holds jar F) :
    Holds (addStep all jar m) (upd F (key m.domain) (over a (F (key m.domain)))) := by
  obtain ⟨G, hG, hF⟩ := hj
  unfold addStep
  simp only [hm, Bool.false_eq_true, if_false, cookie_shape.1, if_true, ← key_eq, getOrNew_eq, hG.dictGet_eq]
  refine ⟨_, tableOf_dictSet hG _ _, fun d => ?_⟩
  unfold upd
  split
  · next e =>
    subst e
    exact ⟨tableOf_update (hF _).1 hall, fun _ => key_dotted _⟩
  · exact hF d

/-- the jar keys a parsed response assigns to: its non-empty Domain attributes, normalised. -/
def domKeys (ms : List Morsel) : List Str :=
  (ms.filter fun m => !m.domain.isEmpty).map fun m => key m.domain

theorem foldl_addStep {all : Cookie} {a} (hall : TableOf all a) (L : List Morsel) {jar : Jar} {F}
    (hj : Holds jar F) :
    Holds (L.foldl (addStep all) jar) fun d => if d ∈ domKeys L then over a (F d) else F d := by
  induction L generalizing jar F with
  | nil => exact hj
  | cons m r ih =>
    rw [List.foldl_cons]
    cases hm : m.domain.isEmpty
    · rw [show domKeys (m :: r) = key m.domain :: domKeys r by simp [domKeys, hm]]
      refine Eq.mp (congrArg _ (funext fun d => ?_)) (ih (addStep_spec hall hm hj))
      by_cases h1 : d = key m.domain <;> simp [upd, h1, over_over]
    · rw [show addStep all jar m = jar by simp [addStep, hm], show domKeys (m :: r) = domKeys r by simp [domKeys, hm]]
      exact ih hj

theorem domKeys_morselsOf (pairs : List (Str × Str)) (dom : Option Str) :
    domKeys (morselsOf pairs dom) =
      if (dom.getD []).isEmpty then [] else List.replicate pairs.length (key (dom.getD [])) := by
  unfold domKeys morselsOf
  rw [List.filter_map, List.map_map]
  cases h : (dom.getD []).isEmpty <;> simp [Function.comp_def, h, List.map_const']

theorem tableOf_puts {s : Store} {F : Str → Str → Option Str} (hs : TableOf s fun p => F p.1 p.2)
    (pairs : List (Str × Str)) (k : Str) :
    TableOf (pairs.foldl (fun s nv => put s (k, nv.1) nv.2) s)
      fun p => upd F k (over (dictGet pairs.reverse) (F k)) p.1 p.2 := by
  refine fold_over (T := fun s g => TableOf s fun p => upd F k g p.1 p.2) (assign := fun s n v => put s (k, n) v)
    (fun {s g} n v h => (tableOf_put h (k, n) v).congr fun p => ?_) pairs (hs.congr fun p => ?_)
  · obtain ⟨d', n'⟩ := p
    by_cases h1 : d' = k <;> simp [upd, h1]
  · by_cases h1 : p.1 = k <;> simp [upd, h1]

/-- the same change of the map as `foldl_addStep` gives for `add`. -/
theorem tableOf_record {s : Store} {F : Str → Str → Option Str} (hs : TableOf s fun p => F p.1 p.2) (r : Response) :
    TableOf (record s r) fun p =>
      (if p.1 ∈ domKeys (morselsOf r.cookies r.domain) then over (dictGet r.cookies.reverse) (F p.1) else F p.1) p.2 := by
  obtain ⟨pairs, dom⟩ := r
  rw [domKeys_morselsOf]
  unfold record
  cases dom with
  | none => exact hs
  | some d =>
    simp only [Option.getD_some]
    split
    · exact hs
    · refine (tableOf_puts hs pairs (key d)).congr fun p => ?_
      by_cases h1 : p.1 = key d
      -- no cookies: nothing is assigned, and the overlay is empty
      · cases pairs <;> simp [upd, over, h1, dictGet]
      · simp [upd, h1, List.mem_replicate]

/-- the refinement invariant: jar and store hold one map. -/
def Rel (jar : Jar) (store : Store) : Prop := ∃ F, Holds jar F ∧ TableOf store fun p => F p.1 p.2

theorem rel_nil : Rel [] [] :=
  ⟨fun _ _ => none, ⟨fun _ => none, tableOf_nil, fun _ => ⟨tableOf_nil, nofun⟩⟩, tableOf_nil⟩

theorem rel_step {jar : Jar} {store : Store} (h : Rel jar store) (r : Response) :
    Rel (add jar (morselsOf r.cookies r.domain)) (record store r) := by
  obtain ⟨F, hj, hs⟩ := h
  have hall : TableOf (cookieOf (morselsOf r.cookies r.domain)) (dictGet r.cookies.reverse) := by
    unfold cookieOf morselsOf
    rw [List.foldl_map]
    exact (fold_over (T := TableOf) (fun n v h => tableOf_dictSet h n v) r.cookies tableOf_nil).congr
      fun _ => Option.or_none
  exact ⟨_, foldl_addStep hall _ hj, tableOf_record hs r⟩

/-- `nv` as a store entry under the domain key `d`. -/
def tag (d : Str) (nv : Str × Str) : (Str × Str) × Str := ((d, nv.1), nv.2)

/-- the jar flattened to the entries of a store, in the jar's order. -/
def triplesJ (jar : Jar) : Store := jar.flatMap fun dc => dc.2.map (tag dc.1)

theorem filter_triplesJ (p : Str → Bool) (jar : Jar) :
    (triplesJ jar).filter (fun e => p e.1.1) = triplesJ (jar.filter fun dc => p dc.1) := by
  induction jar with
  | nil => rfl
  | cons dc r ih =>
    rw [triplesJ, List.flatMap_cons, List.filter_append, ← triplesJ, ih, List.filter_cons]
    cases h : p dc.1
    · exact congrArg (· ++ _) (List.filter_eq_nil_iff.mpr fun e he => by
        obtain ⟨_, _, rfl⟩ := List.mem_map.mp he
        simp [tag, h])
    · exact congrArg (· ++ _) (List.filter_eq_self.mpr fun e he => by
        obtain ⟨_, _, rfl⟩ := List.mem_map.mp he
        exact h)

theorem Holds.triples {jar : Jar} {F} (hj : Holds jar F) : TableOf (triplesJ jar) fun p => F p.1 p.2 := by
  obtain ⟨G, hG, hF⟩ := hj
  intro ⟨d, n⟩
  have e : slot (triplesJ jar) (d, n) = ((triplesJ jar).filter fun e => e.1.1 == d).filter fun e => e.1.2 == n := by
    rw [List.filter_filter]
    exact List.filter_congr fun e _ => Bool.and_comm _ _
  have hc : triplesJ (slot jar d) = ((G d).getD []).map (tag d) := by
    rw [hG d]
    cases G d <;> simp [triplesJ]
  rw [e, filter_triplesJ (· == d), ← slot, hc, List.filter_map]
  show (slot _ n).map _ = _
  rw [(hF d).1 n, List.map_map]
  rfl

theorem covers_eq (n host : Str) :
    (('.' :: n).isSuffixOf (lower host) || lower host == ('.' :: n).drop 1) = covers ('.' :: n) host := by
  unfold covers Spec.Cookie.labels
  simp only [List.drop_succ_cons, List.drop_zero]
  rw [WS.Lemmas.Py.isSuffixOf_splitOn_eq, Bool.or_comm]

theorem collected_eq {jar : Jar} {F} (hj : Holds jar F) (host : Str) :
    collected jar host =
      ((triplesJ jar).filter fun e => covers e.1.1 host).map fun e => (e.1.2, e.2) := by
  obtain ⟨G, hG, hF⟩ := hj
  have : ∀ dc ∈ jar, (dc.1.isSuffixOf (lower host) || lower host == dc.1.drop 1) = covers dc.1 host :=
    fun dc hdc => by
      obtain ⟨n, e⟩ := (hF dc.1).2 (by rw [hG.mem hdc]; nofun)
      rw [e]
      exact covers_eq n host
  rw [filter_triplesJ (covers · host), collected, List.flatten_filter_not_isEmpty, List.filter_congr this, triplesJ,
    List.map_flatMap]
  simp [List.flatMap_def, Function.comp_def, tag]

theorem getPairs_refines {jar : Jar} {store : Store} (h : Rel jar store) {host : Str} (hne : host ≠ []) :
    (getPairs jar host).Perm (covering store host) ∧ Spec.Cookie.NameSorted (getPairs jar host) := by
  obtain ⟨F, hj, hs⟩ := h
  unfold getPairs
  rw [if_neg (by simpa using hne)]
  refine ⟨(List.mergeSort_perm _ _).trans ?_,
    (List.pairwise_mergeSort pairLe_trans pairLe_total _).imp fun h => by
      rw [← strLe_eq, strLe_iff]
      exact ((pairLe_iff _ _).mp h).1⟩
  rw [collected_eq hj]
  exact ((hj.triples.perm hs).filter _).map _

/-- a history as the model sees it (parsed, canonical rendering). -/
def parsed (hist : List Response) : List (List (Str × Str) × Option Str) :=
  hist.map fun r => (r.cookies, r.domain)

theorem cookieHeader_eq (jar : Jar) (host client : Str) :
    cookieHeader jar host client = Spec.Cookie.header (getPairs jar host) client := by
  unfold cookieHeader Spec.Cookie.header Model.Cookie.get
  rw [cookie_shape.2]
  congr 1
  exact List.filter_congr fun s _ => by cases s <;> rfl

/-- evaluation helper (`mergeSort` is by well-founded recursion, so `decide` goes through the
    already-sorted case). -/
theorem getPairs_of_sorted (jar : Jar) (host : Str) (L : List (Str × Str))
    (hne : host.isEmpty = false) (hc : collected jar host = L)
    (hs : L.Pairwise fun a b => pairLe a b = true) : getPairs jar host = L := by
  unfold getPairs
  rw [hne, hc]
  exact List.mergeSort_of_pairwise hs

end WS.Lemmas.Cookie
