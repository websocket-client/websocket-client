/-
  WS.Lemmas.Loss — "once the connection has been lost, the transport is released":
  * `RelInv`: whenever `sock is None`, `connected` is False and the transport has been closed — kept by every
    operation of the object;
  * a call that raises the connection-closed exception leaves the object released.
-/
import WS.Lemmas.OwnClose
namespace WS.Lemmas.Loss
open WS WS.Model WS.Lemmas.Link WS.Lemmas.OwnClose

/-- the exception a call raised, if any (`RecvStrict.raised`); the executed example of `Props/C08c` uses this name. -/
def errE {α : Type} : Except Exn α → Option Exn := RecvStrict.raised

/-- the released state is consistent: no transport reference ⇒ not connected, transport closed. -/
def RelInv (c : Conn) : Prop := c.hasSock = false → c.connected = false ∧ c.sock.closed = true

/-- one operation: keeps `RelInv`; if it raised CLOSED the object is released afterwards. -/
def Loss (c : Conn) (e : Option Exn) (c' : Conn) : Prop :=
  (RelInv c → RelInv c') ∧ (e = some .closed → c'.hasSock = false)

theorem loss_run {l l' : Link} {e : Option Exn} (h : Run l e l') : Loss l.conn e l'.conn := by
  induction h with
  | ok l => exact ⟨id, nofun⟩
  | seq _ _ ih1 ih2 => exact ⟨fun h => ih2.1 (ih1.1 h), ih2.2⟩
  | caught _ ih => exact ⟨ih.1, nofun⟩
  | raise l e h => exact ⟨id, fun he => h (Option.some.inj he)⟩
  | io l s hs => exact ⟨fun _ h => absurd (hs.symm.trans h) nofun, nofun⟩
  | disconnect l => exact ⟨fun h hs => ⟨rfl, (h hs).2⟩, nofun⟩
  | own l _ => exact ⟨fun h hs => ⟨rfl, (h hs).2⟩, nofun⟩
  | release l _ => exact ⟨fun _ _ => ⟨rfl, rfl⟩, nofun⟩

theorem Loss.of_run {c c' : Conn} {e : Option Exn} (h : Run (link c) e (link c')) : Loss c e c' := loss_run h

theorem stage_loss (c : Conn) (k : Nat) (upd : Bytes → Conn → Conn)
    (hu : ∀ v c', (upd v c').hasSock = c'.hasSock ∧ (upd v c').connected = c'.connected ∧ (upd v c').sock.closed = c'.sock.closed) :
    Loss c (match c.recvStrict k with | (.error e, _) => some e | (.ok _, _) => none)
      (match c.recvStrict k with | (.error _, c') => c' | (.ok v, c') => upd v c') := by
  have := Loss.of_run (run_recv.recvStrict c k)
  generalize c.recvStrict k = r at this
  obtain ⟨e | v, c'⟩ := r
  · exact this
  · obtain ⟨a, b, d⟩ := hu v c'
    exact ⟨fun h hs => by rw [b, d]; exact this.1 h (a ▸ hs), nofun⟩

end WS.Lemmas.Loss
