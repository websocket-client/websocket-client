/-
  WS.Lemmas.Utf8 — the generated DFA table simulates the automaton read off Table 3-7, and the
  runs of that automaton are `Spec.wellFormed` read from the middle of a sequence (`wfFrom`).
-/
import WS.Lemmas.Scalars
import WS.Model.Utf8
namespace WS.Lemmas.Utf8
open WS WS.Spec WS.Model WS.Lemmas.Scalars

/-- automaton state read off Table 3-7: `(n, lo, hi)` = `n` trailing bytes still owed,
    the next one in `[lo,hi]` (meaningless when `n = 0`). -/
abbrev St := Nat × Nat × Nat

/-- one byte on: a lead byte by its row of Table 3-7, a trailing byte by the range owed. -/
def step (st : St) (b : UInt8) : Option St :=
  match st with
  | (0, _, _) => row b
  | (k + 1, lo, hi) => if inR b lo hi then some (k, 0x80, 0xBF) else none

/-- what `st` still expects: the rest of the current sequence, then a well-formed string; `none`: the sequence
    is already broken. -/
def wfFrom : Option St → Bytes → Bool
  | none, _ => false
  | some st, bs => tailOk st.1 st.2.1 st.2.2 (bs.take st.1) && wellFormed (bs.drop st.1)

theorem wfFrom_nil (st : St) : wfFrom (some st) [] = (st.1 == 0) := by
  simp [wfFrom, tailOk, wellFormed, BEq.comm (a := st.1)]

theorem wfFrom_zero (lo hi : Nat) (bs : Bytes) : wfFrom (some (0, lo, hi)) bs = wellFormed bs := by
  simp [wfFrom, tailOk_nil]

theorem wfFrom_cons (st : St) (b : UInt8) (rest : Bytes) :
    wfFrom (some st) (b :: rest) = wfFrom (step st b) rest := by
  obtain ⟨n, lo, hi⟩ := st
  cases n with
  | zero =>
    simp only [wfFrom, step, List.take_zero, List.drop_zero, tailOk_nil, Bool.true_and]
    rw [wellFormed]
    cases row b <;> rfl
  | succ k =>
    simp only [wfFrom, step, List.take_succ_cons, List.drop_succ_cons, tailOk_cons]
    cases inR b lo hi <;> rfl

/-- the reachable states, each with the number the code's table uses for it; `(0, 0x80, 0xBF)` is how `step`
    leaves a completed sequence. -/
def states : List (St × Nat) :=
  [((0, 0, 0), 0), ((0, 0x80, 0xBF), 0), ((1, 0x80, 0xBF), 24), ((2, 0x80, 0xBF), 36), ((2, 0xA0, 0xBF), 48),
   ((2, 0x80, 0x9F), 60), ((3, 0x90, 0xBF), 72), ((3, 0x80, 0xBF), 84), ((3, 0x80, 0x8F), 96)]

/-- the generated table's number for a state; the broken sequence is `utf8Reject`. -/
def code : Option St → Option Nat
  | none => some Gen.utf8Reject
  | some st => states.lookup st

/-- checked against the generated table on every build: for byte `q.2`, of class `q.1`, the row of `p` holds the number
    of `step`'s next state. Classes by one `zipIdx` walk, rows by `drop`: `getD` from the table's head costs several times more. -/
theorem table_simulates : ∀ p ∈ states, ∀ q ∈ (Gen.utf8d.take 256).zipIdx,
    code (step p.1 (UInt8.ofNat q.2)) = some ((Gen.utf8d.drop (256 + p.2)).getD q.1 0) := by
  decide +kernel

theorem utf8Decode_eq {st : St} {s : Nat} (hp : (st, s) ∈ states) (b : UInt8) :
    code (step st b) = some (utf8Decode s b) := by
  have hb := b.toNat_lt
  have hlen : 256 ≤ Gen.utf8d.length := by decide +kernel
  have hmem : (Gen.utf8d.getD b.toNat 0, b.toNat) ∈ (Gen.utf8d.take 256).zipIdx := by
    rw [List.mem_zipIdx_iff_getElem?, List.getElem?_take_of_lt hb, List.getD_eq_getElem?_getD,
      List.getElem?_eq_getElem (by omega)]
    rfl
  have h := table_simulates _ hp _ hmem
  rw [UInt8.ofNat_toNat] at h
  simpa [utf8Decode, List.getD_eq_getElem?_getD, List.getElem?_drop, Nat.add_assoc] using h

theorem states_codes : ∀ p ∈ states, p.2 ≠ Gen.utf8Reject ∧ (p.2 = Gen.utf8Accept ↔ p.1.1 = 0) := by decide

theorem loop_accepts_iff (bs : Bytes) : ∀ st s, (st, s) ∈ states →
    (utf8Loop s bs = some Gen.utf8Accept ↔ wfFrom (some st) bs = true) := by
  induction bs with
  | nil =>
    intro st s hp
    simp [utf8Loop, wfFrom_nil, (states_codes _ hp).2]
  | cons b rest ih =>
    intro st s hp
    have h := utf8Decode_eq hp b
    rw [utf8Loop, wfFrom_cons]
    cases hs : step st b with
    | none =>
      rw [hs] at h
      simp [← Option.some.inj h, wfFrom]
    | some st' =>
      obtain ⟨l₁, l₂, hl, -⟩ := List.lookup_eq_some_iff.mp (hs ▸ h)
      have hp' : (st', utf8Decode s b) ∈ states := hl ▸ List.mem_append_right _ List.mem_cons_self
      simp only [beq_iff_eq, (states_codes _ hp').1, if_false]
      exact ih _ _ hp'

end WS.Lemmas.Utf8
