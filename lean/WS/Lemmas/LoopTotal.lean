/-
  WS.Lemmas.LoopTotal — `recv_frame` and the `recv_data_frame` loop on arbitrary bytes: documented outcomes
  only, with progress (every turn consumes at least two bytes or ends the call).  Not an instance of `Walk.LoopClosed`:
  its steps carry neither the `RxReady` invariant nor the byte measure, and `Closed.fail` admits every error but CLOSED.
-/
import WS.Lemmas.Total
import WS.Lemmas.Loop
namespace WS.Lemmas.LoopTotal
open WS WS.Model WS.Spec WS.Lemmas.RecvStrict WS.Lemmas.Frame WS.Lemmas.Parser WS.Lemmas.Staged WS.Lemmas.Total WS.Lemmas.Loop WS.Lemmas.ShortWrites
  WS.Lemmas.Walk

/-- the receive side is ready for the next frame. -/
structure RxReady (c : Conn) : Prop where
  live : Live c
  chunks : Chunks c.sock.inp
  cleared : Cleared c

theorem recvFrame_outcome (c : Conn) (hr : RxReady c) :
    (∀ f c1, c.recvFrame = (.ok f, c1) → RxReady c1 ∧ (pending c1).length + 2 ≤ (pending c).length) ∧
    ∀ e, c.recvFrame.1 = .error e → e = .proto ∨ e = .closed ∨ e = .timeout := by
  obtain ⟨hl, hch, hclr⟩ := hr
  obtain ⟨hp, ht⟩ := (WS.Lemmas.Timeouts.chunks_iff _).1 hch
  rcases recvFrame_plain c hl hp (wellStaged_cleared hclr) with
    ⟨w, rest, hdec, hres, hrest, hclr1, hlive, hplain, hto, _⟩ | ⟨hres, _⟩ | ⟨hres, _⟩
  · rw [vpending_cleared hclr] at hdec
    refine ⟨fun f c1 h => ?_, fun e he => ?_⟩
    · rw [h] at hrest hclr1 hlive hplain hto
      exact ⟨⟨hlive, (WS.Lemmas.Timeouts.chunks_iff _).2 ⟨hplain, hto.trans ht⟩, hclr1⟩, hrest ▸ decode_frame_len hdec⟩
    · rw [hres] at he
      cases hv : validate (frameOfWire w) c.skipUtf8 with
      | none =>
        rw [hv] at he
        cases he
      | some e' =>
        rw [hv] at he
        cases he
        exact Or.inl (validate_proto hv)
  all_goals   -- TIMEOUT, CLOSED: no frame, and the exception is in the list
    refine ⟨fun f c1 h => (nomatch hres.symm.trans (congrArg Prod.fst h)), fun e he => ?_⟩
    cases hres.symm.trans he
    simp

/-- the exceptions `recv_data_frame` may raise, whatever the server sends. -/
inductive LoopBenign : Exn → Prop
  | proto : LoopBenign .proto
  | payload : LoopBenign .payload
  | closed : LoopBenign .closed
  | timeout : LoopBenign .timeout
  | transport : LoopBenign .transport

/-- a reply of the loop (pong, close frame) always formats, so its write fails with CLOSED or the transport's error only. -/
theorem reply_error (c : Conn) (p : Bytes) (op : Nat) (hop : op ∈ Gen.opcodes) (hlen : p.length < 2 ^ 63) {e : Exn}
    (he : (c.sendFrame (createFrame p op)).1 = .error e) : LoopBenign e := by
  obtain ⟨w, hw⟩ := format_createFrame_ok p op (c.keys.headD [0, 0, 0, 0]) hop hlen
  rcases sendFrame_error c _ hw he with rfl | rfl
  · exact .closed
  · exact .transport

/-- `extract` right after `add` can only object to the text not being UTF-8. -/
theorem contExtract_benign {c : Conn} {f : Frame} {e : Exn} (h : ((c.contAdd f).contExtract f).1 = .error e) :
    e = .payload := by
  obtain ⟨⟨op, d⟩, hp⟩ : ∃ p, (c.contAdd f).contData = some p := ⟨_, contAdd_contData c f⟩
  rw [contExtract_some hp rfl] at h
  dsimp only at h   -- `(_, _).1`
  split at h
  · cases h
  · unfold deliver at h
    split at h
    · exact (Except.error.inj h).symm
    · cases h

theorem recvDataFrameLoop_benign (fuel : Nat) (cf : Bool) : ∀ c : Conn, RxReady c → (pending c).length < 2 * fuel →
    ∀ e, (Conn.recvDataFrameLoop fuel c cf).1 = .error e → LoopBenign e := by
  induction fuel with
  | zero =>
    intro c _ h
    omega
  | succ n ih =>
    intro c hr hfu e he
    obtain ⟨hok, herr⟩ := recvFrame_outcome c hr
    generalize hrf : c.recvFrame = r1 at hok herr
    obtain ⟨_ | f, c1⟩ := r1
    · rw [loop_error hrf] at he
      cases he
      rcases herr _ rfl with rfl | rfl | rfl
      · exact .proto
      · exact .closed
      · exact .timeout
    · obtain ⟨hr1, hlen⟩ := hok f c1 rfl
      have hfu1 : (pending c1).length < 2 * n := by omega
      by_cases hd : f.opcode = 0 ∨ f.opcode = 1 ∨ f.opcode = 2
      · rw [loop_data hrf hd] at he
        cases hcv : c1.contValidate f with
        | some e' =>
          rw [hcv] at he
          cases he
          exact contValidate_proto _ _ _ hcv ▸ .proto
        | none =>
          rw [hcv] at he
          dsimp only at he   -- the match on `none`
          split at he
          · exact contExtract_benign he ▸ .payload
          · refine ih _ ?_ (by rw [contAdd_eq]; exact hfu1) e he
            rw [contAdd_eq]
            exact ⟨hr1.live, hr1.chunks, hr1.cleared⟩
      · by_cases h8 : f.opcode = 8
        · rw [loop_close hrf h8] at he
          split at he
          · cases he
          · have hsc := reply_error { c1 with ownCloses := c1.ownCloses + 1, connected := false }
              (beN 2 Gen.statusNormal ++ []) Gen.opcodeClose (by decide) (by decide) (e := e)
            generalize Conn.sendFrame _ _ = rr at hsc he
            obtain ⟨_ | _, c2⟩ := rr <;> cases he
            exact hsc rfl
        · by_cases h9 : f.opcode = 9
          · rw [loop_ping hrf h9] at he
            split at he
            · have hsf := reply_error c1 f.data Gen.opcodePong (by decide) (by omega) (e := e)
              obtain ⟨s, _, _, _, ⟨_, _, _, _, rfl, _⟩, hsr⟩ := sendFrame_sent c1 (createFrame f.data Gen.opcodePong)
              generalize c1.sendFrame (createFrame f.data Gen.opcodePong) = rr at hsf hsr he
              obtain ⟨_ | _, c2⟩ := rr
              · cases he
                exact hsf rfl
              · dsimp only at he hsr
                subst hsr
                split at he
                · cases he
                · refine ih _ ?_ ?_ e he
                  · exact ⟨hr1.live, hr1.chunks, hr1.cleared⟩
                  · exact hfu1
            · cases he
              exact .proto
          · rw [loop_other hrf hd h8 h9] at he
            split at he
            · cases he
            · exact ih _ hr1 hfu1 e he

end WS.Lemmas.LoopTotal
