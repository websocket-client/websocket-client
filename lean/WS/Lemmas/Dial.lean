/-
  WS.Lemmas.Dial — the loop invariant of `_open_socket` (generalisation of C18_dial over the
  address number and the `err` variable).
-/
import WS.Spec.Rfc3986
import WS.Model.OpenSocket
namespace WS.Lemmas.Dial
open WS WS.Py WS.Net
open WS.Model.OpenSocket

/-- `_open_socket`'s result as the Spec's `DialResult` (`UnboundLocalError` on an empty list reads as `failed (other 0)`). -/
def toDial : Res → Spec.Url.DialResult
  | .ok i => .connected i
  | .raised o => .failed o
  | .internal _ => .failed (.other 0)

/-- the Spec's answer when the loop is entered at address `i` with `err`; it passes over `skipped`, stops at `rest`. -/
def resFrom (i : Nat) (err : Option Outcome) (skipped rest : List Outcome) : Res :=
  match rest with
  | .accept :: _ => Res.ok (i + skipped.length)
  | o :: _ => .raised o
  | [] => match skipped.getLast?.or err with
    | some e => .raised e
    | none => .internal "UnboundLocalError"

variable (timeout : Nat) (user : List String)

/-- the events of the addresses `tried`, numbered from `i`: the Spec's block for each, in order. -/
def evsFrom (i : Nat) (tried : List Outcome) : List Ev :=
  ((tried.zipIdx i).map fun (o, j) => Spec.Url.block timeout Gen.defaultSockOpts user j o).flatten

theorem openFrom_cons (i : Nat) (o : Outcome) (os : List Outcome) (err : Option Outcome) :
    openFrom timeout user i (o :: os) err =
      if o.skippable then
        ((openFrom timeout user (i + 1) os (some o)).1,
          Spec.Url.block timeout Gen.defaultSockOpts user i o ++ (openFrom timeout user (i + 1) os (some o)).2)
      else (resFrom i err [] (o :: os), Spec.Url.block timeout Gen.defaultSockOpts user i o) := by
  -- `refused`, `unreachable`: passed over; `accept`, `other`: the loop ends
  cases o <;> simp [openFrom, resFrom, Outcome.skippable, Spec.Url.block, setup]

theorem resFrom_cons (i : Nat) (err : Option Outcome) (o : Outcome) (skipped rest : List Outcome) :
    resFrom i err (o :: skipped) rest = resFrom (i + 1) (some o) skipped rest := by
  unfold resFrom
  split
  · simp only [List.length_cons]
    congr 1
    omega
  · rfl
  · simp [List.getLast?_cons]

theorem openFrom_spec (outs : List Outcome) :
    ∀ (i : Nat) (err : Option Outcome),
    openFrom timeout user i outs err =
      (resFrom i err (outs.takeWhile Outcome.skippable) (outs.dropWhile Outcome.skippable),
       evsFrom timeout user i
         (outs.takeWhile Outcome.skippable ++ (outs.dropWhile Outcome.skippable).take 1)) := by
  induction outs with
  | nil =>
    intro i err
    cases err <;> rfl
  | cons o os ih =>
    intro i err
    rw [openFrom_cons]
    by_cases h : o.skippable = true
    · rw [if_pos h, ih, List.takeWhile_cons_of_pos h, List.dropWhile_cons_of_pos h, resFrom_cons]
      simp [evsFrom, List.zipIdx_cons]
    · rw [if_neg h, List.takeWhile_cons_of_neg h, List.dropWhile_cons_of_neg h]
      simp [evsFrom, List.zipIdx_cons]

/-- `_open_socket` against the Spec's address loop, for every list: on the empty one (which
    `connect` never passes) both sides answer `failed (other 0)`. -/
theorem openSocket_spec (outs : List Outcome) :
    (toDial (openSocket timeout user outs).1, (openSocket timeout user outs).2) =
      Spec.Url.dialSpec timeout Gen.defaultSockOpts user outs := by
  unfold openSocket Spec.Url.dialSpec
  rw [openFrom_spec]
  refine Prod.ext ?_ rfl
  simp only [resFrom, Nat.zero_add, Option.or_none]
  rcases List.dropWhile Outcome.skippable outs with _ | ⟨_ | _ | _ | _, _⟩
  · cases (List.takeWhile Outcome.skippable outs).getLast? <;> rfl
  all_goals rfl

end WS.Lemmas.Dial
