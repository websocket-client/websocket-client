/-
  WS.Lemmas.CloseTime — how long `close()` takes against a silent peer: exactly its timeout.
-/
import WS.Lemmas.Loop
namespace WS.Lemmas.CloseTime
open WS WS.Model WS.Spec WS.Lemmas.RecvStrict WS.Lemmas.Frame WS.Lemmas.Parser WS.Lemmas.ShortWrites WS.Lemmas.Loop

/-- a silent peer: nothing buffered, nothing in flight, the transport only ever times out. -/
structure Silent (c : Conn) : Prop where
  hasSock : c.hasSock = true
  open_ : c.sock.closed = false
  buf : c.buf = []
  inp : c.sock.inp = []
  tail : c.sock.tail = .timeout
  hdr : c.hdr = none

theorem recvFrame_silent (c : Conn) (h : Silent c) :
    c.recvFrame = (.error .timeout,
      { c with sock := { c.sock with calls := c.sock.calls + 1, recvSizes := 2 :: c.sock.recvSizes,
                                     clock := c.sock.clock + c.sock.timeoutMs.getD 0 } }) := by
  have hstrict : c.recvStrict 2 = (.error .timeout,
      { c with sock := { c.sock with calls := c.sock.calls + 1, recvSizes := 2 :: c.sock.recvSizes,
                                     clock := c.sock.clock + c.sock.timeoutMs.getD 0 } }) := by
    unfold Conn.recvStrict
    rw [Conn.recvStrictLoop, h.buf, if_neg (by decide)]
    simp only [show min Gen.recvCap (2 - ([] : Bytes).length) = 2 by decide,
      sockRecv_nil_timeout c 2 ⟨h.hasSock, h.open_⟩ h.inp h.tail, h.buf]
  rw [recvFrame_hdr c h.hdr, stage, hstrict]
  rfl

theorem closeWait_silent (c : Conn) (t fuel : Nat) (h : Silent c) (ht : c.sock.timeoutMs = some t) (hfu : 0 < fuel) :
    ∃ c', Conn.closeWait fuel c c.sock.clock (some t) = c' ∧
      c'.sock.clock = c.sock.clock + t ∧ c'.sock.wire = c.sock.wire ∧ c'.hasSock = true := by
  refine ⟨_, rfl, ?_⟩
  obtain ⟨fuel, rfl⟩ : ∃ k, fuel = k + 1 := ⟨fuel - 1, by omega⟩
  unfold Conn.closeWait
  by_cases h0 : t = 0
  · subst h0
    simp [h.hasSock]
  · have hpos : 0 < t := Nat.pos_of_ne_zero h0
    -- the one read raises TIMEOUT after `t` ms, which ends the wait loop
    simp only [Nat.sub_self, hpos, decide_true, Bool.not_true, Bool.false_eq_true, if_false, recvFrame_silent c h]
    simp [ht, h.hasSock, Sock.wire]

end WS.Lemmas.CloseTime
