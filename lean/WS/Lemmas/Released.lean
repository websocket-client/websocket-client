/-
  WS.Lemmas.Released — once `self.sock is None`, no operation touches a transport:
  every receive/send path leaves the socket record (script, bytes written, call counter)
  exactly as it was, and the object stays released.
-/
import WS.Lemmas.OwnClose
namespace WS.Lemmas.Released
open WS WS.Model WS.Lemmas.Walk WS.Lemmas.Link WS.Lemmas.OwnClose

/-- on a released link no move touches the socket record or attaches one (`io` and `release` need the socket). -/
theorem released_run {l l' : Link} {e : Option Exn} (h : Run l e l') (hr : l.hasSock = false) :
    l'.sock = l.sock ∧ l'.hasSock = false := by
  induction h with
  | seq _ _ ih1 ih2 => exact ⟨(ih2 (ih1 hr).2).1.trans (ih1 hr).1, (ih2 (ih1 hr).2).2⟩
  | caught _ ih => exact ih hr
  | io l s hs => exact nomatch hr.symm.trans hs
  | release l hs => exact nomatch hr.symm.trans hs
  | _ => exact ⟨rfl, hr⟩

/-- "nothing of the transport was touched and the object is still released". -/
def Rel (c c' : Conn) : Prop := c'.sock = c.sock ∧ c'.hasSock = false

theorem runOps_released (c : Conn) (h : c.hasSock = false) (ops : List Op) : Rel c (runOps c ops) :=
  released_run (runOps_run ops c) h

theorem recvFrame_released (c : Conn) (h : c.hasSock = false) : Rel c c.recvFrame.2 :=
  released_run (recvFrame_run c) h

theorem sendFrame_released (c : Conn) (f : Frame) (h : c.hasSock = false) : Rel c (c.sendFrame f).2 :=
  released_run (sendFrame_run c f) h

theorem recvDataFrameLoop_released (fuel : Nat) (cf : Bool) : ∀ c : Conn, c.hasSock = false →
    Rel c (Conn.recvDataFrameLoop fuel c cf).2 :=
  fun c h => released_run (recvDataFrameLoop_run fuel cf c) h

/-- on a released object a frame that formats is never written: `send_frame` raises CLOSED at the first `_send`
    (a formatted frame is never empty). -/
theorem sendFrame_released_closed (c : Conn) (f : Frame) (h : c.hasSock = false) {w : Bytes}
    (hw : format f (c.keys.headD [0, 0, 0, 0]) = .ok w) : (c.sendFrame f).1 = .error .closed := by
  rcases WS.Lemmas.ShortWrites.sendFrame_spec c f with ⟨_, hf, _⟩ | ⟨_, _, ⟨_, e⟩ | ⟨hs, _⟩⟩
  · exact nomatch hw.symm.trans hf
  · rw [e]
  · exact nomatch h.symm.trans hs

theorem send_released_closed (c : Conn) (p : Bytes) (op : Nat) (h : c.hasSock = false)
    (hfmt : ∀ key, ∃ w, format (createFrame p op) key = .ok w ∧ w ≠ []) :
    (c.send p op).1 = .error .closed := by
  obtain ⟨w, hw, _⟩ := hfmt (c.keys.headD [0, 0, 0, 0])
  exact sendFrame_released_closed c _ h hw

end WS.Lemmas.Released
