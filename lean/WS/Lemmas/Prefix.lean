/-
  WS.Lemmas.Prefix — the receive loop over a PREFIX of a message (non-final fragments with pings/pongs between them),
  per-fragment delivery off: the loop absorbs it (answers the pings, accumulates the payloads) and goes on with everything
  it has accumulated kept (`Props/C03d` adds the TIMEOUT that follows when nothing else has arrived). A whole message is a
  prefix and a final fragment, which ends the call (`Loop.loop_message`, at the end, in `Loop`'s namespace).
-/
import WS.Lemmas.Fragments
namespace WS.Lemmas.Prefix
open WS WS.Model WS.Spec WS.Lemmas.RecvStrict WS.Lemmas.Frame WS.Lemmas.Parser WS.Lemmas.Stream WS.Lemmas.ShortWrites WS.Lemmas.Loop
open WS.Lemmas.Fragments

/-- a prefix of a message: pings (≤ 125 bytes), pongs, a non-final first fragment (when none has been seen), non-final
    continuation fragments; `Pre st fs st'`: from sequencing state `st` the frames `fs` lead to `st'`. -/
inductive Pre : Option Nat → List Frame → Option Nat → Prop
  | nil {st} : Pre st [] st
  | ping {st st' f rest} : isPing f → Pre st rest st' → Pre st (f :: rest) st'
  | pong {st st' f rest} : isPong f → Pre st rest st' → Pre st (f :: rest) st'
  | firstMore {st' f rest} : (f.opcode = 1 ∨ f.opcode = 2) → f.fin = 0 → Pre (some f.opcode) rest st' → Pre none (f :: rest) st'
  | contMore {op st' f rest} : f.opcode = 0 → f.fin = 0 → Pre (some op) rest st' → Pre (some op) (f :: rest) st'

theorem Pre.append {st st' : Option Nat} {pre suf : List Frame} (h : Pre st pre st') (hs : MsgFrames st' suf) :
    MsgFrames st (pre ++ suf) := by
  induction h with
  | nil => simpa using hs
  | ping hp _ ih => exact .ping hp (ih hs)
  | pong hp _ ih => exact .pong hp (ih hs)
  | firstMore ho hf _ ih => exact .firstMore ho hf (ih hs)
  | contMore ho hf _ ih => exact .contMore ho hf (ih hs)

theorem Pre.cases_cons {st st' : Option Nat} {f : Frame} {rest : List Frame} (h : Pre st (f :: rest) st') :
    ((isPing f ∨ isPong f) ∧ Pre st rest st') ∨ (InSeq st f ∧ f.fin = 0 ∧ Pre (some (st.getD f.opcode)) rest st') := by
  cases h with
  | ping hp hr => exact .inl ⟨.inl hp, hr⟩
  | pong hp hr => exact .inl ⟨.inr hp, hr⟩
  | firstMore ho hf hr => exact .inr ⟨ho, hf, hr⟩
  | contMore ho hf hr => exact .inr ⟨ho, hf, hr⟩

theorem msgOp_pre {st st' : Option Nat} {pre : List Frame} (h : Pre st pre st') (suf : List Frame) :
    msgOp st (pre ++ suf) = msgOp st' suf := by
  induction pre generalizing st with
  | nil =>
    cases h
    rfl
  | cons f pre ih =>
    rcases h.cases_cons with ⟨hc, hrest⟩ | ⟨hs, _, hrest⟩
    · have h9 : f.opcode = 9 ∨ f.opcode = 10 := hc.imp (·.1) id
      rw [← ih hrest, msgOp, msgOp, List.cons_append, firstDataOp, if_pos h9]
    · rw [← ih hrest, msgOp, msgOp, List.cons_append, firstDataOp, if_neg hs.not_ctrl]
      rfl

theorem pre_absorbs (fs : List Frame) : ∀ {st st' : Option Nat} {c : Conn} {acc : Bytes} {rest : List Frame} {tail : Bytes},
    Pre st fs st' → Fed c (fs ++ rest) tail → LoopInv c st acc →
    ∃ c2, Fed c2 rest tail ∧ Absorbs c fs c2 ∧ LoopInv c2 st' (acc ++ msgPayload fs) := by
  induction fs with
  | nil =>
    intro st st' c acc rest tail hp h hinv
    cases hp
    exact ⟨c, h, .nil c, by rwa [msgPayload, List.append_nil]⟩
  | cons f fs ih =>
    intro st st' c acc rest tail hp h hinv
    rcases hp.cases_cons with ⟨hc, hrest⟩ | ⟨hs, hfin, hrest⟩
    · obtain ⟨c1, h1, t, hcd, hrc⟩ := turn_ctrl h hc
      obtain ⟨c2, h2, u, i2⟩ := ih hrest h1 (acc := acc) ⟨t.fireCont.trans hinv.1, by rw [hcd, hrc]; exact hinv.2⟩
      have h9 : f.opcode = 9 ∨ f.opcode = 10 := hc.imp (·.1) id
      exact ⟨c2, h2, t.cons u, by rwa [msgPayload, if_pos h9]⟩
    · obtain ⟨c1, _, h1, s, rfl, e⟩ := turn_data h hinv.recving hinv.op (by rintro rfl; exact hinv.2.1) hs (hinv.added hs)
      rw [hfin, hinv.1] at e
      obtain ⟨c2, h2, u, i2⟩ := ih hrest (h1.cont (some (st.getD f.opcode, acc ++ f.data)) (some (st.getD f.opcode)))
        ⟨s.fireCont.trans hinv.1, rfl, rfl, hs.op hinv.op⟩
      exact ⟨c2, h2, (Absorbs.of_same s (fun h9 => hs.not_ctrl (.inl h9)) _ _ fun fuel => e fuel false).cons u,
        by rwa [msgPayload, if_neg hs.not_ctrl, ← List.append_assoc]⟩

/-- `pre_absorbs` in the terms of `Ready` and `DecodesTo`. -/
theorem more_prefix (pre : List Frame) (st st' : Option Nat) (hp : Pre st pre st') :
    ∀ (c : Conn) (acc : Bytes) (wsp wsr : List WireFrame) (tail : Bytes) (fuel : Nat),
      Ready c → LoopInv c st acc → wsp.map frameOfWire = pre →
      (∀ w ∈ wsp, validate (frameOfWire w) c.skipUtf8 = none) →
      DecodesTo (pending c) (wsp ++ wsr) tail →
      ∃ c2, Conn.recvDataFrameLoop (fuel + pre.length) c false = Conn.recvDataFrameLoop fuel c2 false ∧
        Ready c2 ∧ DecodesTo (pending c2) wsr tail ∧ LoopInv c2 st' (acc ++ msgPayload pre) ∧
        c2.skipUtf8 = c.skipUtf8 ∧ c2.sock.wire = c.sock.wire ++ pongsWire c.keys pre ∧ c2.keys = keysAfter c.keys pre ∧
        c2.sock.tail = c.sock.tail := by
  intro c acc wsp wsr tail fuel hr hinv hmap hval hd
  obtain ⟨mid, d1, d2⟩ := decodesTo_append hd
  obtain ⟨c2, h2, t, i2⟩ := pre_absorbs pre hp (rest := []) ⟨hr, wsp, by rwa [List.append_nil], d1, hval⟩ hinv
  exact ⟨c2, t.loop fuel, h2.ready, h2.pending ▸ d2, i2, t.skipUtf8, t.wire, t.keys, t.tail⟩

end WS.Lemmas.Prefix

-- in `Loop`'s terms, hence in its namespace; here because the proofs need `Pre` and `keysAfter`
namespace WS.Lemmas.Loop
open WS WS.Model WS.Spec WS.Lemmas.RecvStrict WS.Lemmas.Frame WS.Lemmas.Parser WS.Lemmas.Stream WS.Lemmas.ShortWrites
open WS.Lemmas.Fragments WS.Lemmas.Prefix

theorem MsgFrames.split_last {st : Option Nat} {fs : List Frame} (h : MsgFrames st fs) :
    ∃ pre f st', fs = pre ++ [f] ∧ Pre st pre st' ∧ InSeq st' f ∧ f.fin = 1 := by
  induction h with
  | ping hp _ ih =>
    obtain ⟨pre, f, st', rfl, h, hl⟩ := ih
    exact ⟨_ :: pre, f, st', rfl, .ping hp h, hl⟩
  | pong hp _ ih =>
    obtain ⟨pre, f, st', rfl, h, hl⟩ := ih
    exact ⟨_ :: pre, f, st', rfl, .pong hp h, hl⟩
  | firstMore ho hf _ ih =>
    obtain ⟨pre, f, st', rfl, h, hl⟩ := ih
    exact ⟨_ :: pre, f, st', rfl, .firstMore ho hf h, hl⟩
  | contMore ho hf _ ih =>
    obtain ⟨pre, f, st', rfl, h, hl⟩ := ih
    exact ⟨_ :: pre, f, st', rfl, .contMore ho hf h, hl⟩
  | firstLast ho hf => exact ⟨[], _, none, rfl, .nil, ho, hf⟩
  | @contLast op _ ho hf => exact ⟨[], _, some op, rfl, .nil, ho, hf⟩

/-- the loop over the frames of one message, with fuel enough: it delivers the message, having answered the pings. -/
theorem loop_message (fs : List Frame) (st : Option Nat) (hm : MsgFrames st fs) :
    ∀ (c : Conn) (acc : Bytes) (ws : List WireFrame) (tail : Bytes) (fuel : Nat),
      Ready c → LoopInv c st acc → ws.map frameOfWire = fs →
      (∀ w ∈ ws, validate (frameOfWire w) c.skipUtf8 = none) →
      DecodesTo (pending c) ws tail → fs.length ≤ fuel →
      ∃ c', Conn.recvDataFrameLoop fuel c false =
              (deliver c.skipUtf8 (msgOp st fs) (lastFrame fs) (acc ++ msgPayload fs), c') ∧
        Ready c' ∧ pending c' = tail ∧ LoopInv c' none [] ∧
        c'.sock.wire = c.sock.wire ++ pongsWire c.keys fs ∧ c'.skipUtf8 = c.skipUtf8 := by
  intro c acc ws tail fuel hr hinv hmap hval hd hfu
  obtain ⟨pre, f, st', rfl, hp, hs, hfin⟩ := hm.split_last
  obtain ⟨k, rfl⟩ : ∃ k, fuel = k + 1 + pre.length := ⟨fuel - 1 - pre.length, by simp at hfu; omega⟩
  obtain ⟨c2, h2, t, i2⟩ := pre_absorbs pre hp ⟨hr, ws, hmap, hd, hval⟩ hinv
  obtain ⟨c3, _, h3, s, rfl, e3⟩ := turn_data h2 i2.recving i2.op (by rintro rfl; exact i2.2.1) hs (i2.added hs)
  have h' := h3.cont none none
  have hn9 : ¬ f.opcode = 9 := fun h => hs.not_ctrl (.inl h)
  refine ⟨_, ?_, h'.ready, h'.pending, ⟨s.fireCont.trans i2.1, rfl, rfl, rfl⟩, ?_, s.skipUtf8.trans t.skipUtf8⟩
  · rw [t.loop, e3, hfin, i2.1, t.skipUtf8, msgOp_pre hp, lastFrame_append pre (List.cons_ne_nil _ _), msgPayload_append,
      ← List.append_assoc]
    simp only [msgOp, firstDataOp, msgPayload, lastFrame, hs.not_ctrl, if_false, List.append_nil]
    rfl
  · rw [pongsWire_append, pongsWire, if_neg hn9, pongsWire, List.append_nil]
    exact s.wire.trans t.wire

theorem recvDataFrame_message {fs : List Frame} {st : Option Nat} (hm : MsgFrames st fs) {c : Conn} {acc : Bytes}
    {ws : List WireFrame} {tail : Bytes} (hr : Ready c) (hinv : LoopInv c st acc) (hmap : ws.map frameOfWire = fs)
    (hval : ∀ w ∈ ws, validate (frameOfWire w) c.skipUtf8 = none) (hd : DecodesTo (pending c) ws tail) :
    ∃ c', c.recvDataFrame false = (deliver c.skipUtf8 (msgOp st fs) (lastFrame fs) (acc ++ msgPayload fs), c') ∧
      Ready c' ∧ pending c' = tail ∧ LoopInv c' none [] ∧
      c'.sock.wire = c.sock.wire ++ pongsWire c.keys fs ∧ c'.skipUtf8 = c.skipUtf8 := by
  obtain ⟨extra, h⟩ := fuel_split c hd
  exact loop_message fs st hm c acc ws tail _ hr hinv hmap hval hd (by rw [← hmap, List.length_map, h]; omega)

end WS.Lemmas.Loop
