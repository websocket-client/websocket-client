/-
  WS.Lemmas.AppEnd — how a run with one established connection ends (quiet plan, keepalive off,
  reconnect off): teardown for any state of the `WebSocket` object; what `read()` makes of a terminating event;
  `end_run`: the end of the run, the terminating event a variable.
-/
import WS.Lemmas.AppConn
namespace WS.Lemmas.App
open WS WS.Model.App

/-- the rest of `run_forever` (first connection, reconnect off) once the dispatcher loop has returned -/
def finishRunO (c : Cfg) (x : St × R Unit) : St × Outcome := outcome (afterBody c (afterLoop c false x))

/-- the loop stands before the terminating event `te`, which has arrived -/
structure AtTerm (s : St) (te : TEv) (w : WSock) : Prop where
  kr : s.keepRunning = true
  sk : s.sock = some w
  wo : w.isOpen = true
  wd : w.dead = false
  wc : w.connected = true
  pg : s.ping = none
  hdt : s.hasDoneTeardown = false
  he : s.hasErrored = false
  evs : s.evs = [te]
  arrived : s.arr + te.dt ≤ s.now

/-- what `WebSocket.close()` followed by `self.sock = None` adds to the trace for a `WebSocket` in state `w` at tick `t` when
    the peer sends nothing more, and the tick at which they return (`close()` returns at once when not connected) -/
def shut (w : WSock) (t : Nat) : Trace × Nat :=
  if w.connected && w.isOpen && !w.dead then
    ([(t, .wrote Gen.opcodeClose (beN 2 Gen.statusNormal)), (t + secs Gen.closeTimeoutDefault, .sockClosed w.idx)],
     t + secs Gen.closeTimeoutDefault)
  else if w.isOpen then ([(t, if w.connected then .sockClosed w.idx else .sockDropped w.idx)], t)
  else ([], t)

theorem closeWait_silent (c : Cfg) (start : Nat) (s : St) (hs : s.now - start < secs Gen.closeTimeoutDefault)
    (pg : s.ping = none) (hz : s.now + secs Gen.closeTimeoutDefault ≤ c.horizon) :
    closeWait c start [] s = ({ s with now := s.now + secs Gen.closeTimeoutDefault }, true) := by
  rw [closeWait, if_pos hs, waitUntil_none c s _ pg hz, Nat.max_eq_right (Nat.le_add_right ..)]

theorem shut_spec (c : Cfg) (s : St) (w : WSock) (sk : s.sock = some w) (hev : s.evs = []) (pg : s.ping = none)
    (hz : w.connected = true → w.isOpen = true → w.dead = false → s.now + secs Gen.closeTimeoutDefault ≤ c.horizon) :
    ∃ s1, wsClose c s = (s1, true) ∧
      dropSock s1 = { s with sock := none, now := (shut w s.now).2, trace := s.trace ++ (shut w s.now).1 } := by
  have hpos : s.now - s.now < secs Gen.closeTimeoutDefault := by
    have : 0 < secs Gen.closeTimeoutDefault := by decide
    omega
  rcases w with ⟨i, wc, wo, wd⟩
  -- by the flags, as in `shut`
  cases wc <;> cases wo <;> cases wd
  all_goals
    simp only [shut, wsClose, sk, St.writable, Bool.not_true, Bool.not_false, Bool.and_true, Bool.and_false,
      Bool.false_eq_true, ↓reduceIte, closeTransport, dropSock, St.emit, closeWait_silent, hev, hpos, pg, hz,
      exists_eq_left', Prod.mk.injEq, and_true, List.append_nil, List.append_assoc, List.cons_append, List.nil_append]

theorem closeArgs_none (c : Cfg) : closeArgs c none = [.none, .none] := by
  unfold closeArgs
  split <;> rfl

theorem teardown_quiet (c : Cfg) (hq : Quiet c) (s : St) (w : WSock) (frame : Option Bytes)
    (hdt : s.hasDoneTeardown = false) (pg : s.ping = none) (sk : s.sock = some w) (hev : s.evs = [])
    (hz : w.connected = true → w.isOpen = true → w.dead = false → s.now + secs Gen.closeTimeoutDefault ≤ c.horizon) :
    teardown c s frame =
      ({ s with hasDoneTeardown := true, keepRunning := false, lastPing := 0, lastPong := 0, sock := none,
                now := (shut w s.now).2, calls := cbCalls c s.calls .onClose,
                trace := s.trace ++ (shut w s.now).1 ++ cbTrace c s.calls (shut w s.now).2 .onClose (closeArgs c frame) },
       .ok ()) := by
  obtain ⟨s1, h1, h2⟩ := shut_spec c
    { s with hasDoneTeardown := true, lastPing := 0, lastPong := 0, keepRunning := false } w sk hev pg hz
  simp only [pg] at h1 h2
  simp only [teardown, gen_guard, hdt, Bool.and_false, Bool.false_eq_true, ↓reduceIte, gen_tdStops, stopPing, pg, h1,
    Bool.not_true, h2, callback_quiet c hq]

theorem handleDisconnect_quiet (c : Cfg) (hq : Quiet c) (s : St) (e : AExn) (rc : Bool)
    (kr : s.keepRunning = true) (pg : s.ping = none) :
    handleDisconnect c s e rc =
      afterReport c { s with hasErrored := true, lastPing := 0, lastPong := 0,
                             calls := if rc then s.calls else cbCalls c s.calls .onError,
                             trace := s.trace ++ (if rc then [] else cbTrace c s.calls s.now .onError [.exn e]) } e := by
  rw [handleDisconnect_running c s e rc kr]
  cases rc <;>
    simp only [handleDisconnectBody, gen_dcErr, gen_dcStops, stopPing, pg, ↓reduceIte, Bool.not_true, Bool.not_false,
      Bool.false_eq_true, callback_quiet c hq, List.append_nil]

theorem outcome_done (c : Cfg) (s : St) (h : s.hasDoneTeardown = true) :
    outcome (afterBody c (s, .ok ())) = (s.emit (.returned s.hasErrored), .returned s.hasErrored) := by
  simp only [afterBody, gen_finally, ↓reduceIte, teardown_Q c s none h, outcome]

/-- the exception `read()` raises for a loss -/
def lossExn : SrvEv → AExn
  | .reset => .transport
  | .protoError => .proto
  | .payloadError => .payload
  | _ => .closed

/-- what the loss leaves of the `WebSocket` object: end of stream releases the transport (`_core._recv`), a reset leaves
    it unusable but open, a refused frame leaves it as it is -/
def lossSock (ev : SrvEv) (w : WSock) : WSock :=
  match ev with
  | .eof => { w with isOpen := false, connected := false }
  | .reset => { w with dead := true }
  | _ => w

theorem lossExn_ne_ki (ev : SrvEv) : lossExn ev ≠ .ki := by
  cases ev <;> simp [lossExn]

theorem loss_result (c : Cfg) (k : St → St × R Unit) (s : St) (te : TEv) (w : WSock)
    (sk : s.sock = some w) (wo : w.isOpen = true) (arrived : s.arr + te.dt ≤ s.now) (hl : isLoss te.ev = true) :
    afterRead c k (readEvents c [te] s) =
      ({ s with sock := some (lossSock te.ev w), evs := [], arr := s.arr + te.dt,
                trace := s.trace ++ (if te.ev = .eof then [(s.now, .sockClosed w.idx)] else []) },
       .exc (lossExn te.ev)) := by
  rw [readEvents_arrived c te [] s (by intro h; simp [h, isLoss] at hl) arrived]
  cases hk : te.ev with
  | eof | reset | protoError | payloadError => simp [handleEv, afterRead, sk, closeTransport, wo, lossSock, lossExn, St.emit]
  | _ => simp [hk, isLoss] at hl

theorem close_result (c : Cfg) (hq : Quiet c) (k : St → St × R Unit) (s : St) (te : TEv) (w : WSock) (body : Bytes)
    (sk : s.sock = some w) (wo : w.isOpen = true) (wd : w.dead = false)
    (pg : s.ping = none) (hdt : s.hasDoneTeardown = false) (arrived : s.arr + te.dt ≤ s.now)
    (hk : te.ev = .close body) :
    afterRead c k (readEvents c [te] s) =
      ({ s with keepRunning := false, hasDoneTeardown := true, lastPing := 0, lastPong := 0, sock := none,
                evs := [], arr := s.arr + te.dt, calls := cbCalls c s.calls .onClose,
                trace := s.trace ++ [(s.now, .wrote Gen.opcodeClose (beN 2 Gen.statusNormal)), (s.now, .sockDropped w.idx)] ++
                  cbTrace c s.calls s.now .onClose (closeArgs c (some body)) }, .ok ()) := by
  rw [readEvents_arrived c te [] s (by simp [hk]) arrived, hk]
  simp only [handleEv, gen_closeToTeardown, ↓reduceIte, sk, Option.map_some, St.writable, wo, wd, Bool.not_false,
    Bool.and_self, St.emit]
  -- the state is left for `rw` to find; `by exact` keeps `hdt`, `pg` (which hold of it by unfolding) from fixing it to `s`
  rw [teardown_quiet c hq _ { idx := w.idx, connected := false, isOpen := true, dead := false } (some body)
    (by exact hdt) (by exact pg) rfl rfl nofun]
  simp [shut, afterRead, asRead]

/-- the end of a run lost to `e` at tick `t`: the report, what closing the socket leaves (`mid`, through at `t'`),
    on_close, the return -/
def lossEnd (c : Cfg) (calls : Cb → Nat) (t : Nat) (e : AExn) (mid : Trace) (t' : Nat) : Trace :=
  cbTrace c calls t .onError [.exn e] ++ mid ++ cbTrace c (cbCalls c calls .onError) t' .onClose [.none, .none] ++
    [(t', .returned true)]

theorem finish_loss (c : Cfg) (hq : Quiet c) (hrc : c.reconnect = 0) (s : St) (w : WSock) (e : AExn)
    (kr : s.keepRunning = true) (pg : s.ping = none) (hdt : s.hasDoneTeardown = false) (sk : s.sock = some w)
    (hev : s.evs = []) (hki : e ≠ .ki)
    (hz : w.connected = true → w.isOpen = true → w.dead = false → s.now + secs Gen.closeTimeoutDefault ≤ c.horizon) :
    (finishRunO c (s, .exc e)).2 = .returned true ∧
    (finishRunO c (s, .exc e)).1.trace = s.trace ++ lossEnd c s.calls s.now e (shut w s.now).1 (shut w s.now).2 := by
  have h1 := handleDisconnect_quiet c hq s e false kr pg
  simp only [afterReport, hki, hrc, ↓reduceIte, ne_eq, not_true_eq_false, Bool.false_eq_true] at h1
  -- `by exact` as in `close_result`
  rw [teardown_quiet c hq _ w none (by exact hdt) (by exact pg) (by exact sk) (by exact hev) (by exact hz)] at h1
  rw [finishRunO, afterLoop, h1, outcome_done c _ rfl]
  simp only [St.emit, lossEnd, List.append_assoc, closeArgs_none, and_self]

/-- what the run appends to the trace when it meets the terminating event `ev` at tick `t` on the usable transport `i`;
    between report and on_close what releasing the transport takes: nothing after end of stream (`recv` closed it), a
    close after a reset, the closing handshake with its whole timeout after a refused frame -/
def endTrace (c : Cfg) (calls : Cb → Nat) (t i : Nat) (ev : SrvEv) : Trace :=
  let refused (e : AExn) := lossEnd c calls t e [(t, .wrote Gen.opcodeClose (beN 2 Gen.statusNormal)),
    (t + secs Gen.closeTimeoutDefault, .sockClosed i)] (t + secs Gen.closeTimeoutDefault)
  match ev with
  | .close body =>
    [(t, .wrote Gen.opcodeClose (beN 2 Gen.statusNormal)), (t, .sockDropped i)] ++
      cbTrace c calls t .onClose (closeArgs c (some body)) ++ [(t, .returned false)]
  | .eof => [(t, .sockClosed i)] ++ lossEnd c calls t .closed [] t
  | .reset => lossEnd c calls t .transport [(t, .sockClosed i)] t
  | .protoError => refused .proto
  | .payloadError => refused .payload
  | _ => []

theorem endTrace_loss (c : Cfg) (calls : Cb → Nat) (t i : Nat) (ev : SrvEv) (h : isLoss ev = true) :
    endTrace c calls t i ev = (if ev = .eof then [(t, .sockClosed i)] else []) ++
      lossEnd c calls t (lossExn ev)
        (shut (lossSock ev { idx := i, connected := true, isOpen := true, dead := false }) t).1
        (shut (lossSock ev { idx := i, connected := true, isOpen := true, dead := false }) t).2 := by
  cases ev <;> first | rfl | cases h

theorem end_run (c : Cfg) (hq : Quiet c) (hrc : c.reconnect = 0) (k : St → St × R Unit) (s : St) (te : TEv) (w : WSock)
    (h : AtTerm s te w) (hterm : isTerm te.ev = true)
    (hz : te.ev = .protoError ∨ te.ev = .payloadError → s.now + secs Gen.closeTimeoutDefault ≤ c.horizon) :
    (finishRunO c (afterRead c k (readEvents c [te] s))).2 = .returned (isLoss te.ev) ∧
    (finishRunO c (afterRead c k (readEvents c [te] s))).1.trace = s.trace ++ endTrace c s.calls s.now w.idx te.ev := by
  obtain ⟨kr, sk, wo, wd, wc, pg, hdt, he, -, arrived⟩ := h
  obtain ⟨i, _, _, _⟩ := w
  subst wo wd wc
  cases hl : isLoss te.ev with
  | true =>
    rw [loss_result c k s te _ sk rfl arrived hl, endTrace_loss c _ _ _ _ hl, ← List.append_assoc]
    refine finish_loss c hq hrc _ _ _ kr pg hdt rfl rfl (lossExn_ne_ki _) fun h1 _ h3 => hz ?_
    -- only a refused frame leaves the connection usable, so that closing it takes the whole timeout
    revert hl h1 h3
    cases te.ev <;> simp [isLoss, lossSock]
  | false =>
    obtain ⟨body, hk⟩ : ∃ body, te.ev = .close body := by
      revert hl hterm
      cases te.ev <;> simp [isLoss, isTerm]
    rw [close_result c hq k s te _ body sk rfl rfl pg hdt arrived hk, hk]
    simp only [finishRunO, afterLoop]
    rw [outcome_done c _ rfl]
    simp only [endTrace, St.emit, he, List.append_assoc, and_self]

/-- terminating events of a connection, as the property lists them -/
def endsBy (te : TEv) : Prop :=
  te.ev = .eof ∨ te.ev = .reset ∨ te.ev = .protoError ∨ te.ev = .payloadError ∨ ∃ b, te.ev = .close b

theorem endsBy_isTerm {te : TEv} (h : endsBy te) : isTerm te.ev = true := by
  rcases h with h | h | h | h | ⟨b, h⟩ <;> simp [h, isTerm]

end WS.Lemmas.App
