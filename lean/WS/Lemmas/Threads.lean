/-
  WS.Lemmas.Threads — the interleaving invariant of concurrent senders: at every point of every
  schedule the wire is the concatenation of the completed frames (in completion order) followed by
  a prefix of the lock holder's frame; nobody but the holder is inside the write loop.
-/
import WS.Model.Threads
import WS.Lemmas.Lock
namespace WS.Lemmas.Threads
open WS WS.Model.Threads WS.Lemmas.Lock

variable (n : Nat) (frames : Nat → Bytes) (acc : Nat → Nat)

/-- inside the section the lock protects: the write loop of `send_frame`. -/
def Writing : Pc → Prop
  | .writing _ => True
  | _ => False

/-- the invariant the file header describes; `n`: the number of threads. -/
structure TInv (s : St) : Prop where
  log : Log .done s.pc s.order
  bound : ∀ i ∈ s.order, i < n
  /-- `pre`: the part of the holder's frame that is no longer in its program counter. -/
  sect : Sect Writing s.pc s.holder (s.wire = (s.order.map frames).flatten) fun h p =>
    h < n ∧ ∃ pre rest, p = .writing rest ∧ frames h = pre ++ rest ∧ s.wire = (s.order.map frames).flatten ++ pre

theorem inv_init : TInv n frames (init frames) :=
  ⟨⟨.nil, by simp [init]⟩, nofun, nofun, fun _ => rfl, nofun⟩

theorem inv_step (s : St) (i : Nat) (hi : i < n) (h : TInv n frames s) : TInv n frames (step true frames acc s i) := by
  fun_cases step true frames acc s i with
  | case1 hpc _ hh =>     -- acquire
    exact ⟨h.log.upd (hpc ▸ nofun) nofun, h.bound,
      h.sect.acquire hh fun hf => ⟨hi, [], _, rfl, rfl, by simpa using hf⟩⟩
  | case4 rest hpc hemp =>   -- release
    refine ⟨h.log.snoc (hpc ▸ nofun), ?_, h.sect.release hpc trivial nofun ?_⟩
    · exact fun j hj => (List.mem_append.1 hj).elim (h.bound j) fun e => List.mem_singleton.1 e ▸ hi
    · rintro ⟨_, pre, _, ⟨⟩, hfr, hw⟩
      obtain rfl : rest = [] := by simpa using hemp
      simp [hw, hfr]
  | case5 rest hpc _ l =>   -- one transport write
    refine ⟨h.log.upd (hpc ▸ nofun) nofun, h.bound, h.sect.inner hpc trivial ?_⟩
    rintro ⟨_, pre, _, ⟨⟩, hfr, hw⟩
    exact ⟨hi, pre ++ rest.take l, _, rfl, by rw [hfr, List.append_assoc, List.take_append_drop],
      by rw [hw, List.append_assoc]⟩
  | case3 _ hl => exact absurd rfl hl   -- the start without the lock: not with `locked = true`
  | _ => exact h   -- blocked, or done

theorem inv_reach (sched : List Nat) (hs : ∀ i ∈ sched, i < n) : TInv n frames (run true frames acc (init frames) sched) :=
  List.foldlRecOn sched _ (inv_init n frames) fun s h i hi => inv_step n frames acc s i (hs i hi) h

end WS.Lemmas.Threads
