/-
  WS.Lemmas.Legal — `Spec.frameLegal` in the two parts the code checks in two places (`ABNF.validate` per frame,
  `continuous_frame` per message), and the second part: `continuous_frame` keeps the RFC's sequencing rule.
  The first part is `Props.C05b.validate_iff_legal`.
-/
import WS.Spec.Rfc6455
import WS.Model.Conn
namespace WS.Lemmas.Legal
open WS WS.Spec WS.Model

/-- the frame-level part of `Spec.frameLegal` (everything but message sequencing). -/
def frameLevelLegal (f : Frame) : Bool :=
  f.rsv1 == 0 && f.rsv2 == 0 && f.rsv3 == 0 && isKnownOpcode f.opcode &&
  (!isControl f.opcode || (f.fin == 1 && f.data.length ≤ 125)) &&
  (f.opcode != 8 || closeBodyLegal f.data)

/-- Python truthiness of `recving_frames`. -/
def recvingTruthy (c : Conn) : Bool := match c.recving with | some n => n != 0 | none => false

/-- the sequencing part of `Spec.frameLegal`. -/
def seqLegal (inMsg : Bool) (op : Nat) : Bool := (op != 0 || inMsg) && (!(op == 1 || op == 2) || !inMsg)

theorem contValidate_iff (c : Conn) (f : Frame) :
    (c.contValidate f).isNone = seqLegal (recvingTruthy c) f.opcode := by
  rw [seqLegal, bne]
  -- the local `rec?` of `contValidate` is `recvingTruthy c`
  show (if (!recvingTruthy c && f.opcode == 0) then some Exn.proto
        else if (recvingTruthy c && (f.opcode == 1 || f.opcode == 2)) then some Exn.proto else none).isNone = _
  cases recvingTruthy c <;> cases f.opcode == 0 <;> cases (f.opcode == 1 || f.opcode == 2) <;> rfl

/-- after a sequencing-legal data frame has been added, the code's in-message flag is the Spec's `inMessageAfter`: in a
    message iff the frame was not final. (Invariant: buffered fragments imply the flag.) -/
theorem contAdd_flag (c : Conn) (f : Frame) (hdata : f.opcode = 0 ∨ f.opcode = 1 ∨ f.opcode = 2)
    (hinv : c.contData.isSome = true → recvingTruthy c = true)
    (hleg : seqLegal (recvingTruthy c) f.opcode = true) :
    recvingTruthy (c.contAdd f) = inMessageAfter (recvingTruthy c) f.fin f.opcode := by
  have hnc : isControl f.opcode = false := by
    rcases hdata with h | h | h <;> rw [h] <;> rfl
  rw [inMessageAfter, hnc, if_neg (by decide), Conn.contAdd, bne]
  cases f.fin == 0 with
  | false => rfl
  | true =>
    -- not final: the flag must be set afterwards
    cases hcd : c.contData with
    | some p => exact hinv (hcd ▸ rfl)
    | none =>
      rcases hdata with h | h | h <;> rw [h] at hleg ⊢
      · -- a continuation with nothing buffered is legal only inside a message (per-fragment delivery)
        exact (Bool.and_eq_true_iff.1 hleg).1
      · rfl
      · rfl

end WS.Lemmas.Legal
