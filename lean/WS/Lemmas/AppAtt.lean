/-
  WS.Lemmas.AppAtt — the closed form of a reconnecting run as one executable function of the world: what the driver op
  `s-c15-resumes` evaluates.  Definitions only, so that the driver imports no proof module; the theorems about them are in
  `AppLost` and `Props/C15c`.
-/
import WS.Model.App
namespace WS.Lemmas.App
open WS WS.Model.App

/-- traffic the loop delivers and reads on after: a message, a ping, a pong -/
def isLegal : SrvEv → Bool
  | .message _ _ _ | .ping _ | .pong _ => true
  | _ => false

/-- arrival tick of the last of the events, the first gap counted from `arr` -/
def endTime : Nat → List TEv → Nat
  | arr, [] => arr
  | arr, e :: r => endTime (arr + e.dt) r

/-- the ways an established connection is lost (everything terminating but the server's close frame) -/
def isLoss : SrvEv → Bool
  | .eof | .reset | .protoError | .payloadError => true
  | _ => false

/-- an attempt after which the client must try again: a dial that fails, or a connection that is established, carries
    legal traffic and is lost -/
inductive Att where
  | fail (d : Dial)
  | lost (legal : List TEv) (te : TEv)

/-- the tick at which the attempt dialled at `t` is over -/
def attEnd (t : Nat) : Att → Nat
  | .fail _ => t
  | .lost legal te => endTime t (legal ++ [te])

/-- the transport the attempt leaves open -/
def attOpen (i : Nat) : Att → Option Nat
  | .fail _ => none
  | .lost _ te => if te.ev = .eof then none else some i

/-- the release the attempt itself performs (a failed dial closes its socket at once, end of stream releases it) -/
def attClose (t i : Nat) : Att → Trace
  | .fail _ => [(t, .sockClosed i)]
  | .lost legal te => if te.ev = .eof then [(endTime t (legal ++ [te]), .sockClosed i)] else []

/-- what the release adds to the network skeleton -/
def relTrace (t : Nat) : Option Nat → Trace
  | some j => [(t, .sockClosed j)]
  | none => []

/-- tick at which the last of the attempts `as` is over, the first of them being preceded by a sleep that starts at `t` -/
def attsEnd (r : Nat) : Nat → List Att → Nat
  | t, [] => t
  | t, a :: as => attsEnd r (attEnd (t + r) a) as

/-- the transport left open after the attempts -/
def attsOpen : Nat → Option Nat → List Att → Option Nat
  | _, o, [] => o
  | i, _, a :: as => attsOpen (i + 1) (attOpen i a) as

/-- the network skeleton of the retries: per attempt `sleep r`, release of what the previous connection left open, the dial
    exactly `r` after the previous attempt was over, and the release the attempt itself performs -/
def attsTrace (r : Nat) : Nat → Nat → Option Nat → List Att → Trace
  | _, _, _, [] => []
  | t, i, o, a :: as =>
    [(t, .sleep r)] ++ relTrace (t + r) o ++ [(t + r, .dial i)] ++ attClose (t + r) i a ++
      attsTrace r (attEnd (t + r) a) (i + 1) (attOpen i a) as

/-- the dial outcome as an attempt that does not end the run, if it is one -/
def attOf : Dial → Option Att
  | .refused => some (.fail .refused)
  | .rejected st => some (.fail (.rejected st))
  | .established evs =>
    match evs.getLast? with
    | some te => if isLoss te.ev && evs.dropLast.all (fun e => isLegal e.ev) then some (.lost evs.dropLast te) else none
    | none => none

/-- the network skeleton `C15_resumes` states, for a world `a :: as` then `established final` starting at tick 0 on a fresh
    object (socket indices from 0); `sockDropped` left out (the real run observes it through garbage collection only) -/
def resumesSkeleton (r : Nat) (a : Att) (as : List Att) (final : List TEv) : Trace :=
  let t1 := attEnd 0 a
  let o1 := attOpen 0 a
  let tK := attsEnd r t1 as
  let iK := 1 + as.length
  [(0, .dial 0)] ++ attClose 0 0 a ++ attsTrace r t1 1 o1 as ++
    [(tK, .sleep r)] ++ relTrace (tK + r) (attsOpen 1 o1 as) ++
    [(tK + r, .dial iK), (endTime (tK + r) final, .returned true)]

def attsOf : List Dial → Option (List Att)
  | [] => some []
  | d :: ds =>
    match attOf d, attsOf ds with
    | some a, some as => some (a :: as)
    | _, _ => none

/-- a whole world in the shape of `C15_resumes` (at least one non-final attempt; the last connection carries legal traffic
    and is closed by the server): its skeleton; `none` when the world has another shape -/
def resumesOfWorld (r : Nat) (w : List Dial) : Option Trace :=
  match w.getLast?, attsOf w.dropLast with
  | some (.established final), some (a :: as) =>
    match final.getLast? with
    | some te =>
      (match te.ev with
       | .close _ => if final.dropLast.all (fun e => isLegal e.ev) then some (resumesSkeleton r a as final) else none
       | _ => none)
    | none => none
  | _, _ => none

end WS.Lemmas.App
