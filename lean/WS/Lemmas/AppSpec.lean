/-
  WS.Lemmas.AppSpec — what the legal traffic of a connection leaves, in one statement (`runLegal_spec`, `conn_state`): the
  state is the one before it but for clock, events, counters and trace; the counters are what the Spec counts; the trace
  entries, projected to callbacks, are the Spec's `reportTrace` of the Spec's `deliver` list; projected to the network
  (`netOnly`) they are none.
-/
import WS.Lemmas.AppEnd
import WS.Spec.AppTrace
namespace WS.Lemmas.App
open WS WS.Model.App
open WS.Spec.AppTrace (reportTrace expectedDeliveries deliver cbOnly expectedConn)

/-- invocation counters after a list of due callbacks (Spec side) -/
def specCalls (has : Cb → Bool) (plan : Cb → List Act) : (Cb → Nat) → List (Nat × Cb × List Arg) → (Cb → Nat)
  | cnt, [] => cnt
  | cnt, (_, cb, _) :: rest =>
    let k := cnt cb
    let cnt1 : Cb → Nat := fun x => if x = cb then cnt x + 1 else cnt x
    if Spec.AppTrace.actOf plan cb k = .raise && has .onError then
      specCalls has plan (fun x => if x = .onError then cnt1 x + 1 else cnt1 x) rest
    else specCalls has plan cnt1 rest

theorem actOf_eq (c : Cfg) (cb : Cb) (k : Nat) : Spec.AppTrace.actOf c.plan cb k = c.act cb k := rfl

/-- one due callback, in the form `deliver` and `expectedConn` list it (due when it is set), in front of further ones -/
theorem report_due (c : Cfg) (calls : Cb → Nat) (t : Nat) (cb : Cb) (args : List Arg) (l : List (Nat × Cb × List Arg)) :
    reportTrace c.has c.plan calls ((if c.has cb then [(t, cb, args)] else []) ++ l) =
      cbTrace c calls t cb args ++ reportTrace c.has c.plan (cbCalls c calls cb) l ∧
    specCalls c.has c.plan calls ((if c.has cb then [(t, cb, args)] else []) ++ l) =
      specCalls c.has c.plan (cbCalls c calls cb) l := by
  unfold cbTrace cbCalls
  cases c.has cb
  · exact ⟨rfl, rfl⟩
  · simp only [↓reduceIte, List.singleton_append, reportTrace, specCalls, Bool.not_true, Bool.false_eq_true]
    rw [actOf_eq]
    -- the model and the Spec branch on the same condition
    cases decide (c.act cb (calls cb) = .raise) && c.has .onError <;> exact ⟨rfl, rfl⟩

theorem cbOnly_append (a b : Trace) : cbOnly (a ++ b) = cbOnly a ++ cbOnly b := by simp [cbOnly]

theorem cbOnly_cbTrace (c : Cfg) (calls : Cb → Nat) (t : Nat) (cb : Cb) (args : List Arg) :
    cbOnly (cbTrace c calls t cb args) = cbTrace c calls t cb args := by
  unfold cbTrace cbOnly
  split
  · rfl
  · split <;> simp

/-- the network skeleton of a trace: connection attempts, sleeps, transport releases, the return -/
def netOnly (tr : Trace) : Trace :=
  tr.filter fun te => match te.2 with
    | .dial _ | .sleep _ | .sockClosed _ | .sockDropped _ | .returned _ => true
    | _ => false

theorem netOnly_append (a b : Trace) : netOnly (a ++ b) = netOnly a ++ netOnly b := by simp [netOnly]

theorem netOnly_cbTrace (c : Cfg) (calls : Cb → Nat) (t : Nat) (cb : Cb) (args : List Arg) :
    netOnly (cbTrace c calls t cb args) = [] := by
  unfold cbTrace
  split
  · rfl
  · split <;> rfl

theorem netOnly_wrote (t op : Nat) (p : Bytes) : netOnly [(t, Ev.wrote op p)] = [] := rfl

theorem dataArg_eq (op : Nat) (p : Bytes) : Model.App.dataArg op p = Spec.AppTrace.dataArg op p := by
  have : Gen.opcodeText = 1 := by decide
  simp [Model.App.dataArg, Spec.AppTrace.dataArg, this]

theorem isTerminator_eq (ev : SrvEv) : Spec.AppTrace.isTerminator ev = isTerm ev := by cases ev <;> rfl

theorem legal_not_term {ev : SrvEv} (h : isLegal ev = true) : isTerm ev = false := by
  cases ev <;> first | rfl | cases h

/-- `due`: the callbacks due after this event -/
theorem applyLegal_spec (c : Cfg) (s : St) (e : TEv) (hl : isLegal e.ev = true) (hnow : s.now ≤ s.arr + e.dt)
    (due : List (Nat × Cb × List Arg)) :
    specCalls c.has c.plan (applyLegal c s e).calls due =
      specCalls c.has c.plan s.calls (deliver c.has (s.arr + e.dt) e.ev ++ due) ∧
    cbOnly (applyLegal c s e).trace ++ reportTrace c.has c.plan (applyLegal c s e).calls due =
      cbOnly s.trace ++ reportTrace c.has c.plan s.calls (deliver c.has (s.arr + e.dt) e.ev ++ due) ∧
    netOnly (applyLegal c s e).trace = netOnly s.trace := by
  have m : max s.now (s.arr + e.dt) = s.arr + e.dt := Nat.max_eq_right hnow
  unfold applyLegal
  cases hev : e.ev with
  | message op p frag =>
    simp only [m, deliver, cbOnly_append, cbOnly_cbTrace, netOnly_append, netOnly_cbTrace, List.append_assoc, report_due,
      dataArg_eq, List.append_nil, and_self]
  | ping p =>
    simp only [m, deliver, cbOnly_append, cbOnly_cbTrace, netOnly_append, netOnly_cbTrace, netOnly_wrote, List.append_assoc,
      report_due, List.append_nil, and_true, true_and]
    rfl
  | pong p =>
    simp only [m, deliver, cbOnly_append, cbOnly_cbTrace, netOnly_append, netOnly_cbTrace, List.append_assoc, report_due,
      List.append_nil, and_self]
  | _ =>
    rw [hev] at hl
    cases hl

theorem runLegal_spec (c : Cfg) : ∀ (legal rest : List TEv) (s : St), (∀ e ∈ legal, isLegal e.ev = true) → s.now = s.arr →
    s.evs = legal ++ rest →
    ∃ tr, runLegal c s legal =
        { s with now := endTime s.now legal, evs := rest, arr := endTime s.arr legal,
                 calls := specCalls c.has c.plan s.calls (expectedDeliveries c.has s.arr legal), trace := tr } ∧
      cbOnly tr = cbOnly s.trace ++ reportTrace c.has c.plan s.calls (expectedDeliveries c.has s.arr legal) ∧
      netOnly tr = netOnly s.trace := by
  intro legal
  induction legal with
  | nil =>
    intro rest s _ _ hev
    obtain rfl : s.evs = rest := hev
    exact ⟨s.trace, rfl, (List.append_nil _).symm, rfl⟩
  | cons e l ih =>
    intro rest s hleg hnow hev
    obtain ⟨hl, hleg'⟩ := List.forall_mem_cons.1 hleg
    have m : max s.now (s.arr + e.dt) = s.arr + e.dt := by omega
    obtain ⟨tr, hX, hcb, hnet⟩ := ih rest (applyLegal c s e) hleg' (by rw [applyLegal_now, applyLegal_arr, m])
      (by rw [applyLegal_evs, hev]; rfl)
    obtain ⟨c1, c2, c3⟩ := applyLegal_spec c s e hl (by omega) (expectedDeliveries c.has (s.arr + e.dt) l)
    rw [applyLegal_arr] at hX hcb
    simp only [expectedDeliveries, isTerminator_eq, legal_not_term hl, Bool.false_eq_true, ↓reduceIte]
    refine ⟨tr, ?_, hcb.trans c2, hnet.trans c3⟩
    obtain ⟨_, _, hf⟩ := applyLegal_frame c s e
    rw [show runLegal c s (e :: l) = runLegal c (applyLegal c s e) l from rfl, hX, c1, hf, m, hnow]
    rfl

theorem conn_state (c : Cfg) (s : St) (rc : Bool) (legal rest : List TEv) (ds : List Dial)
    (hleg : ∀ e ∈ legal, isLegal e.ev = true) :
    ∃ tr, runLegal c (enterR c s rc (legal ++ rest) ds) legal =
        { s with dials := ds, nextIdx := s.nextIdx + 1,
                 sock := some { idx := s.nextIdx, connected := true, isOpen := true, dead := false },
                 now := endTime s.now legal, evs := rest, arr := endTime s.now legal,
                 calls := specCalls c.has c.plan (cbCalls c s.calls (openCb c rc)) (expectedDeliveries c.has s.now legal),
                 trace := tr } ∧
      cbOnly tr = cbOnly s.trace ++ (cbTrace c s.calls s.now (openCb c rc) [] ++
        reportTrace c.has c.plan (cbCalls c s.calls (openCb c rc)) (expectedDeliveries c.has s.now legal)) ∧
      netOnly tr = netOnly s.trace ++ [(s.now, .dial s.nextIdx)] := by
  obtain ⟨tr, hX, hcb, hnet⟩ := runLegal_spec c legal rest (enterR c s rc (legal ++ rest) ds) hleg rfl rfl
  refine ⟨tr, hX, ?_, ?_⟩
  · rw [hcb]
    simp only [enterR, cbOnly_append, cbOnly_cbTrace, List.append_assoc]
    rfl
  · rw [hnet]
    simp only [enterR, netOnly_append, netOnly_cbTrace, List.append_nil]
    rfl

theorem cbTrace_end (c : Cfg) (calls : Cb → Nat) (t : Nat) (cb : Cb) (args : List Arg) (x : Nat × Ev)
    (hcb : cb = .onError ∨ cb = .onClose) (h : x ∈ cbTrace c calls t cb args) :
    (∃ a, x.2 = .cb .onError a) ∨ (∃ a, x.2 = .cb .onClose a) := by
  unfold cbTrace at h
  split at h
  · cases h
  · rcases List.mem_cons.1 h with rfl | h
    · rcases hcb with rfl | rfl
      · exact .inl ⟨_, rfl⟩
      · exact .inr ⟨_, rfl⟩
    · split at h
      · rw [List.mem_singleton.1 h]
        exact .inl ⟨_, rfl⟩
      · cases h

theorem endTrace_cb (c : Cfg) (calls : Cb → Nat) (t i : Nat) (ev : SrvEv) (x : Nat × Ev)
    (hx : x ∈ cbOnly (endTrace c calls t i ev)) : (∃ a, x.2 = .cb .onError a) ∨ (∃ a, x.2 = .cb .onClose a) := by
  cases ev
  all_goals
    simp only [endTrace, lossEnd, cbOnly_append, cbOnly_cbTrace, List.mem_append] at hx
    simp only [cbOnly, List.filter_cons, List.filter_nil, Bool.false_eq_true, ↓reduceIte, List.not_mem_nil, false_or,
      or_false] at hx
  -- the server's close frame: on_close alone; a loss: on_error, then on_close
  · exact cbTrace_end c _ _ _ _ x (.inr rfl) hx
  all_goals exact hx.elim (cbTrace_end c _ _ _ _ x (.inl rfl)) (cbTrace_end c _ _ _ _ x (.inr rfl))

theorem expectedDeliveries_term (has : Cb → Bool) (t0 : Nat) (legal : List TEv) (te : TEv)
    (hleg : ∀ e ∈ legal, isLegal e.ev = true) (hterm : isTerm te.ev = true) :
    expectedDeliveries has t0 (legal ++ [te]) = expectedDeliveries has t0 legal := by
  induction legal generalizing t0 with
  | nil => simp only [List.nil_append, expectedDeliveries, isTerminator_eq, hterm, ↓reduceIte]
  | cons e l ih =>
    obtain ⟨hl, hleg'⟩ := List.forall_mem_cons.1 hleg
    simp only [List.cons_append, expectedDeliveries, isTerminator_eq, legal_not_term hl, Bool.false_eq_true, ↓reduceIte,
      ih _ hleg']

theorem expectedConn_eq (c : Cfg) (calls : Cb → Nat) (t : Nat) (cb : Cb) (legal : List TEv) (te : TEv)
    (hleg : ∀ e ∈ legal, isLegal e.ev = true) (hterm : isTerm te.ev = true) :
    expectedConn c.has c.plan calls t cb (legal ++ [te]) =
      cbTrace c calls t cb [] ++ reportTrace c.has c.plan (cbCalls c calls cb) (expectedDeliveries c.has t legal) := by
  rw [expectedConn, expectedDeliveries_term c.has t legal te hleg hterm, (report_due c calls t cb [] _).1]

theorem expectedConn_head (has : Cb → Bool) (plan : Cb → List Act) (cnt : Cb → Nat) (t0 : Nat) (first : Cb)
    (evs : List TEv) (h : has first = true) :
    ∃ rest, Spec.AppTrace.expectedConn has plan cnt t0 first evs = (t0, .cb first []) :: rest := by
  simp only [Spec.AppTrace.expectedConn, h, ↓reduceIte, List.singleton_append, Spec.AppTrace.reportTrace]
  split <;> exact ⟨_, rfl⟩

end WS.Lemmas.App
