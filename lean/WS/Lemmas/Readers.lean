/-
  WS.Lemmas.Readers — the interleaving invariant of concurrent receivers: at every point of every schedule
  the messages delivered so far are exactly the first messages of the stream, each reassembled, each to a
  different task; the unread stream is the remaining messages (minus what the lock holder has taken of the
  message it is assembling); nobody but the lock holder is inside the loop.  (`MsgFrames`: `WS.Lemmas.Loop`.)
-/
import WS.Model.Readers
import WS.Lemmas.Loop
import WS.Lemmas.Lock
namespace WS.Lemmas.Readers
open WS WS.Model WS.Model.Readers WS.Lemmas.Loop WS.Lemmas.Lock

/-- what a whole message delivers (specification side): the opcode of its first fragment, the payloads in order. -/
def deliverOf (fs : List Frame) : Nat × Bytes := (firstDataOp fs, msgPayload fs)

/-- literally the test in `step`, so that a fact about it rewrites the unfolded step. -/
abbrev isCtl (f : Frame) : Bool := f.opcode == Gen.opcodePing || f.opcode == Gen.opcodePong

theorem isCtl_iff (f : Frame) : isCtl f = true ↔ f.opcode = 9 ∨ f.opcode = 10 := by
  simp [isCtl, Gen.opcodePing, Gen.opcodePong]

/-- The loop of one call in big steps, with the tests as `step` makes them: a call that finds the reassembly state `cont`
    and the frames `fs` ahead delivers `d` and leaves `rest` unread. `d` and `rest` are parameters and `last` states them
    by equations, so that inversion (`cases`) never has to unify them. -/
inductive Reads (d : Nat × Bytes) (rest : List Frame) : Option (Nat × Bytes) → List Frame → Prop
  | ctl {cont f fs} : isCtl f = true → Reads d rest cont fs → Reads d rest cont (f :: fs)
  | more {cont f fs} : isCtl f = false → (f.fin != 0) = false → Reads d rest (some (contAdd cont f)) fs →
      Reads d rest cont (f :: fs)
  | last {cont f fs} : isCtl f = false → (f.fin != 0) = true → contAdd cont f = d → fs = rest → Reads d rest cont (f :: fs)

/-- on the frames of a message the call delivers what the Spec says; `hc` reads `cont` as the opcode `st` and the payload
    `acc` of the message in progress. -/
theorem reads_msg {rest fs : List Frame} {st : Option Nat} {acc : Bytes} {cont : Option (Nat × Bytes)}
    (hc : ∀ f, contAdd cont f = (st.getD f.opcode, acc ++ f.data)) (h : MsgFrames st fs) :
    Reads (msgOp st fs, acc ++ msgPayload fs) rest cont (fs ++ rest) := by
  induction fs generalizing st acc cont with
  | nil => exact absurd rfl h.ne_nil
  | cons f fs ih =>
    have data (hs : InSeq st f) : isCtl f = false := Bool.eq_false_iff.2 (mt (isCtl_iff f).1 hs.not_ctrl)
    rw [msgOp, firstDataOp, msgPayload]
    rcases h.cases_cons with ⟨hp, hrest⟩ | ⟨hs, hfin, hrest⟩ | ⟨hs, hfin, rfl⟩
    · have h9 : f.opcode = 9 ∨ f.opcode = 10 := hp.imp (·.1) id
      rw [if_pos h9, if_pos h9]
      exact .ctl ((isCtl_iff f).2 h9) (ih hc hrest)
    · rw [if_neg hs.not_ctrl, if_neg hs.not_ctrl, ← List.append_assoc]
      exact .more (data hs) (by simp [hfin]) (ih (fun g => by rw [hc]; rfl) hrest)
    · rw [if_neg hs.not_ctrl, if_neg hs.not_ctrl, msgPayload, List.append_nil]
      exact .last (data hs) (by simp [hfin]) (hc f) rfl

/-- inside the section the read lock protects: the loop of `recv_data_frame`. -/
def Inside : Pc → Prop
  | .reading | .got _ => True
  | _ => False

/-- the frame a task has read and not yet acted on. -/
def inHand : Pc → List Frame
  | .got f => [f]
  | _ => []

/-- `ahead` = the frame the holder has in hand, then the unread stream; `rm` = the messages still to be delivered. -/
def HolderReads (ahead : List Frame) (cont : Option (Nat × Bytes)) : List (List Frame) → Prop
  | [] => ahead = [] ∧ cont = none
  | cur :: rt => Reads (deliverOf cur) rt.flatten cont ahead

variable (msgs : List (List Frame))

structure RInv (s : St) : Prop where
  log : Log .done s.pc (s.delivered.map (·.1))
  /-- `dm`: the messages delivered, `rm`: those still to come. -/
  split : ∃ dm rm, msgs = dm ++ rm ∧ s.delivered.map (·.2) = dm.map deliverOf ∧
    Sect Inside s.pc s.holder (s.stream = rm.flatten ∧ s.cont = none) fun _ p => HolderReads (inHand p ++ s.stream) s.cont rm

theorem inv_init : RInv msgs (init msgs.flatten) :=
  ⟨⟨.nil, by simp [init]⟩, [], msgs, rfl, rfl, nofun, fun _ => ⟨rfl, rfl⟩, nofun⟩

theorem inv_step (hm : ∀ fs ∈ msgs, MsgFrames none fs) (s : St) (i : Nat) (h : RInv msgs s) :
    RInv msgs (step true s i) := by
  have ⟨hlog, dm, rm, hsplit, hdel, hsect⟩ := h
  unfold step
  cases hpc : s.pc i with
  | done => exact h
  | start =>
    cases hh : s.holder with
    | some o => exact h
    | none =>
      refine ⟨hlog.upd (hpc ▸ nofun) nofun, dm, rm, hsplit, hdel, hsect.acquire hh ?_⟩
      rintro ⟨hstream, hcont⟩
      show HolderReads s.stream s.cont rm
      rw [hcont, hstream]
      cases rm with
      | nil => exact ⟨rfl, rfl⟩
      | cons cur rt => exact reads_msg (acc := []) (fun _ => rfl) (hm cur (by simp [hsplit]))
  | reading =>
    cases hs : s.stream with
    | nil => exact h
    | cons f rest =>
      refine ⟨hlog.upd (hpc ▸ nofun) nofun, dm, rm, hsplit, hdel, hsect.inner hpc trivial fun hp => ?_⟩
      rwa [hs] at hp
  | got f =>
    have hp := hsect.held i (hsect.excl i (hpc ▸ trivial))
    rw [hpc] at hp
    cases rm with
    | nil => exact absurd hp.1 (List.cons_ne_nil _ _)
    | cons cur rt =>
      -- the holder goes on with the rest of the message, in reassembly state `c`
      have more : ∀ c, Reads (deliverOf cur) rt.flatten c s.stream →
          RInv msgs { s with cont := c, pc := upd s.pc i .reading } := fun c hc =>
        ⟨hlog.upd (hpc ▸ nofun) nofun, dm, cur :: rt, hsplit, hdel, hsect.inner hpc trivial fun _ => hc⟩
      cases (hp : Reads _ _ s.cont (f :: s.stream)) with
      | ctl hc hm' =>
        simp only [hc, if_true]
        exact more _ hm'
      | more hc hfin hm' =>
        simp only [hc, hfin, Bool.false_eq_true, if_false]
        exact more _ hm'
      | last hc hfin hd hstream =>
        simp only [hc, hfin, Bool.false_eq_true, if_false, if_true]
        refine ⟨?_, dm ++ [cur], rt, by simp [hsplit], by simp [hdel, hd],
          hsect.release hpc trivial nofun fun _ => ⟨hstream, rfl⟩⟩
        rw [List.map_append]
        exact hlog.snoc (hpc ▸ nofun)

theorem inv_reach (hm : ∀ fs ∈ msgs, MsgFrames none fs) (sched : List Nat) :
    RInv msgs (run true (init msgs.flatten) sched) :=
  List.foldlRecOn sched _ (inv_init msgs) fun s h i _ => inv_step msgs hm s i h

end WS.Lemmas.Readers
