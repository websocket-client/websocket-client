/-
  WS.Props.C17 — arbitrary server bytes: documented exceptions only, progress, bounded requests.
  Frame phase: WS.Lemmas.{Total,Sizes,LoopTotal}; handshake phase: WS.Lemmas.Http (head-phase models).
-/
import WS.Lemmas.Total
import WS.Lemmas.Sizes
import WS.Lemmas.LoopTotal
import WS.Lemmas.Http
namespace WS.Props.C17
open WS WS.Model WS.Lemmas.RecvStrict WS.Lemmas.Parser WS.Lemmas.Total WS.Lemmas.Sizes WS.Lemmas.LoopTotal

/-- **C17_frame_no_internal** — frame phase: whatever bytes the server sends (ANY byte string, in ANY
    chunking), followed by end of stream or silence, a `recv_frame` call from a cleared parser returns a
    frame or raises PROTO, CLOSED or TIMEOUT: never IndexError/struct.error/TypeError/…, and never runs out
    of fuel — i.e. it cannot spin without consuming input. -/
theorem C17_frame_no_internal (c : Conn) (hl : Live c) (hch : Chunks c.sock.inp) (hclr : Cleared c)
    (e : Exn) (he : c.recvFrame.1 = .error e) : e = .proto ∨ e = .closed ∨ e = .timeout :=
  (recvFrame_outcome c ⟨hl, hch, hclr⟩).2 e he

/-- **C17_message_no_internal** — message level: whatever bytes the server sends (any byte string, any
    chunking) followed by end of stream or silence, and however the transport treats the automatic replies,
    `recv_data_frame` returns a value or raises PROTO, PAYLOAD, CLOSED, TIMEOUT or the transport's own error;
    never an internal error; the fuel the model passes is always enough, i.e. the loop never spins: every turn
    consumes at least two bytes of input or ends the call. -/
theorem C17_message_no_internal (c : Conn) (cf : Bool) (hr : RxReady c) (e : Exn)
    (he : (c.recvDataFrame cf).1 = .error e) :
    e = .proto ∨ e = .payload ∨ e = .closed ∨ e = .timeout ∨ e = .transport := by
  have hfu : (pending c).length < 2 * (c.sock.size + c.buf.length + 2) := by
    have := bytesOf_add_two_le_size c.sock
    simp only [pending, List.length_append]
    omega
  cases recvDataFrameLoop_benign _ cf c hr hfu e he <;> simp

/-- **C17_request_sizes** — for EVERY state, EVERY transport script (chunks, timeouts, waits, eof, reset)
    and EVERY length the peer declares (up to 2^64-1), each size `recv_frame` passes to the transport's
    `recv` is at most 16384: the request is never driven by a length the peer merely declared. -/
theorem C17_request_sizes (c : Conn) :
    ∀ x ∈ c.recvFrame.2.sock.recvSizes, x ∈ c.sock.recvSizes ∨ x ≤ 16384 :=
  recvFrame_sizes c   -- `SizesOk`, with the generated `Gen.recvCap` = 16384

/-- non-vacuity: a header declaring 2^63-1 bytes with a 5-byte body: the model asks for 16384, never more,
    and ends in CLOSED. -/
example :
    let c : Conn := { sock := { inp := [.chunk ([0x82, 0x7F, 0x7F, 0xFF, 0xFF, 0xFF, 0xFF, 0xFF, 0xFF, 0xFF] ++ [1, 2, 3, 4, 5])] } }
    c.recvFrame.1 = .error .closed ∧ c.recvFrame.2.sock.recvSizes.foldl max 0 = 16384 := by
  decide

open WS.Lemmas.Http WS.Model.Http WS.Model.Handshake WS.H2 in
/-- **C17_head_no_internal** — handshake phase: for every transport script, `read_headers` ends in a
    documented exception or returns; `_get_resp_headers` likewise, and every size it asks of the transport is
    1 (head) or at most 16384 (error body), whatever Content-Length says. (Proved over the head-phase models
    in WS.Lemmas.Http; the guards are generated facts.) -/
theorem C17_head_no_internal (s : WS.Model.Http.Sock) :
    (∀ e s' k, readHeaders s = (.error e, s', k) → Documented e) ∧
    (∀ e s' io, getRespHeaders s = (.error e, s', io) → Documented e) ∧
    (∀ r s' io, getRespHeaders s = (r, s', io) → ∀ ev ∈ io, ∃ n, ev = IoEv.recv n ∧ n ≤ 16384) :=
  -- the last: `Reads io`, with the generated `Gen.h2BodyReadCap` = 16384
  ⟨fun _ _ _ h => readHeaders_err h, fun _ _ _ h => (getRespHeaders_post h).1, fun _ _ _ h => (getRespHeaders_post h).2⟩

end WS.Props.C17
