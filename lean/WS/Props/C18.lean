/-
  WS.Props.C18 — property theorems for C18 (URL → target; address loop; dispatcher).
-/
import WS.Lemmas.Url
import WS.Lemmas.Dial
import WS.Lemmas.Proxy
namespace WS.Props.C18
open WS WS.Py WS.Net
open WS.Model.OpenSocket
open WS.Lemmas.Url WS.Lemmas.Dial

/-- generated facts (T): `parse_url` tests for "//" after the scheme and splits with
    `urlsplit` (each false of a tree without the corresponding repair). -/
theorem code_shape : Gen.parseUrlRequiresSlashes = true ∧ Gen.parseUrlUsesUrlsplit = true := url_shape

/-- **C18_parse** — for every string the Spec's grammar accepts as a ws/wss URL (any host form,
    any port 1…65535 or none, any path, query, user-info, fragment; any IP-literal
    recogniser), `parse_url` returns exactly the Spec's target: lower-cased host without
    brackets, explicit port or 80/443, path-or-"/" plus "?"query, TLS flag iff wss. -/
theorem C18_parse (v6ok : Str → Bool) (u : Str) (t : Target)
    (h : Spec.Url.classify v6ok u = .target t) : Model.Url.parseUrl v6ok u = .ok t := by
  have := parseUrl_meets v6ok u
  rwa [h] at this

/-- **C18_reject** — no ":" at all, a scheme other than ws/wss, no "//" after the scheme, or an
    authority without a host: `parse_url` raises ValueError.  (`C18_no_network` below: nothing
    has touched the resolver or a socket at that point.) -/
theorem C18_reject (v6ok : Str → Bool) (u : Str)
    (h : Spec.Url.classify v6ok u = .refuse) : Model.Url.parseUrl v6ok u = .error .valueError := by
  have := parseUrl_meets v6ok u
  rwa [h] at this

/-- **C18_total** — whatever the string, `parse_url` either returns a target or raises
    ValueError: no other exception, no internal error. -/
theorem C18_total (v6ok : Str → Bool) (u : Str) (e : Exn)
    (h : Model.Url.parseUrl v6ok u = .error e) : e = .valueError :=
  (parseUrl_meets v6ok u).error_is_valueError h

/-- **C18_no_network** — when `parse_url` refuses the URL, `connect()` ends with that
    ValueError and the trace of resolver and socket activity is empty.  With `C18_reject`:
    no ":" / foreign scheme / no "//" / no host ⇒ ValueError before any network activity. -/
theorem C18_no_network (v6ok : Str → Bool) (url : Str) (timeout : Nat) (sockopt : List String)
    (p : Model.Proxy.ProxyInfo) (env : Model.NoProxy.Env) (w : Model.Proxy.World) (e : Exn)
    (h : Model.Url.parseUrl v6ok url = .error e) :
    Model.Proxy.connect v6ok url timeout sockopt p env w = (.error .valueError, []) := by
  have := C18_total v6ok url e h
  subst this
  unfold Model.Proxy.connect
  rw [h]

/-- **C18_target** — with no proxy in play, the name and port handed to the resolver are the
    parsed URL's host and port, TLS is requested exactly for wss and with that host name,
    and the tuple handed to the handshake is the parsed (host, port, resource). -/
theorem C18_target (v6ok : Str → Bool) (url : Str) (timeout : Nat) (sockopt : List String)
    (p : Model.Proxy.ProxyInfo) (env : Model.NoProxy.Env) (w : Model.Proxy.World) (t : Target)
    (o : Outcome) (outs : List Outcome) (i : Nat) (evs : List Ev)
    (hp : Model.Url.parseUrl v6ok url = .ok t)
    (hc : Model.Proxy.getProxyInfo v6ok t.host t.secure p env = .ok Model.Proxy.direct)
    (ha : w.addrs = some (o :: outs))
    (hd : openSocket timeout sockopt (o :: outs) = (.ok i, evs)) :
    Model.Proxy.connect v6ok url timeout sockopt p env w =
      (.ok (i, t), Model.Proxy.CEv.resolve t.host t.port :: evs.map .sock
        ++ (if t.secure then [.tls i t.host] else [])) := by
  rw [WS.Lemmas.Proxy.connect_ok_eq hp hc ha hd rfl]
  simp

/-- non-vacuity: the grammar accepts the usual forms, refuses the malformed ones, and the
    `;params` case keeps its parameters (F14 repaired). -/
example :
    Spec.Url.classify Model.Url.bracketOk "wss://u:p@Ex.Com:8443/a;b/c?d=1#f".toList =
      .target ⟨"ex.com".toList, 8443, "/a;b/c?d=1".toList, true⟩ ∧
    Spec.Url.classify Model.Url.bracketOk "ws://[::1]?q".toList =
      .target ⟨"::1".toList, 80, "/?q".toList, false⟩ ∧
    Spec.Url.classify Model.Url.bracketOk "ws:abc://h/".toList = .refuse ∧
    Spec.Url.classify Model.Url.bracketOk "http://h/".toList = .refuse ∧
    Spec.Url.classify Model.Url.bracketOk "ws://:80/".toList = .refuse ∧
    Spec.Url.classify Model.Url.bracketOk "ws://h:0/".toList = .unconstrained := by
  -- literals as character lists first: see `lit`
  repeat rw [String.toList_ofList]
  decide +kernel

/-- **C18_dial** — for every non-empty address list of any length and every pattern of
    outcomes, `_open_socket` tries the addresses in order, goes past every refused or
    unreachable one, stops at the first other outcome (connected, or that error raised at
    once), raises the last error when all were refused/unreachable; and on every socket tried
    the calls are exactly: create, settimeout(timeout), the default options, the user's
    options, connect, and close iff the connect failed. -/
theorem C18_dial (timeout : Nat) (user : List String) (outs : List Outcome) (hne : outs ≠ []) :
    (toDial (openSocket timeout user outs).1, (openSocket timeout user outs).2) =
      Spec.Url.dialSpec timeout Gen.defaultSockOpts user outs :=
  openSocket_spec timeout user outs

example : (openSocket 5 ["o"] [.refused, .unreachable, .accept, .refused]).1 = .ok 2 ∧
    (openSocket 5 [] [.refused, .other 110, .accept]).1 = .raised (.other 110) ∧
    (openSocket 5 [] [.refused, .unreachable]).1 = .raised .unreachable := by decide

/-- **C18_options** — corollary on the trace itself: whenever a socket is connected, the
    events immediately before it on that socket are its creation, `settimeout(timeout)`, every
    default option and every user option, in this order (all sockets tried, any list). -/
theorem C18_options (timeout : Nat) (user : List String) (outs : List Outcome) (hne : outs ≠ [])
    (i : Nat) (o : Outcome)
    (hi : (o, i) ∈ ((outs.takeWhile Outcome.skippable ++ (outs.dropWhile Outcome.skippable).take 1).zipIdx 0)) :
    ([Ev.create i, .settimeout i timeout] ++ Gen.defaultSockOpts.map (Ev.setsockopt i)
        ++ user.map (Ev.setsockopt i) ++ [.connect i]) <:+: (openSocket timeout user outs).2 := by
  have hb : Spec.Url.block timeout Gen.defaultSockOpts user i o <:+: (openSocket timeout user outs).2 := by
    rw [congrArg Prod.snd (C18_dial timeout user outs hne)]
    exact List.infix_of_mem_flatten (List.mem_map.mpr ⟨(o, i), hi, rfl⟩)
  exact .trans ⟨[], if o == .accept then [] else [.close i], by simp [Spec.Url.block]⟩ hb

/-- generated fact (T): the default options start with TCP_NODELAY and enable keep-alive. -/
theorem default_options :
    Gen.defaultSockOpts.head? = some "socket.SOL_TCP|socket.TCP_NODELAY|1" ∧
    "socket.SOL_SOCKET|socket.SO_KEEPALIVE|1" ∈ Gen.defaultSockOpts :=
  ⟨rfl, .tail _ (.head _)⟩

/-- **C18_dispatcher** — without a custom dispatcher, the TLS-aware dispatcher is chosen
    exactly when the URL's security flag is set, with time-out `ping_timeout or 10`. -/
theorem C18_dispatcher (pt : Option Nat) (secure : Bool) :
    (∃ t, createDispatcher pt false secure = .ssl t) ↔ secure = true := by
  unfold createDispatcher
  cases secure <;> simp

theorem dispatcher_timeout : createDispatcher none false true = .ssl 10 ∧
    createDispatcher (some 0) false false = .plain 10 ∧
    createDispatcher (some 7) false true = .ssl 7 := by decide

end WS.Props.C18
