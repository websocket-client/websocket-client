/-
  WS.Props.C01b — C01 at the level of the `send` call: one draw, the drawn key on the wire, return value.
-/
import WS.Props.C01
import WS.Lemmas.ShortWrites
namespace WS.Props.C01b
open WS WS.Spec WS.Model WS.Lemmas.ShortWrites

/-- **C01_send** — one `send(payload, opcode)` on a writable connection, whatever the short-write pattern:
    exactly ONE key is drawn from the key source; the bytes added to the wire are one frame that the RFC decoder
    reads as FIN=1, reserved bits clear, that opcode, MASK set, THAT drawn key, the minimal length form and
    exactly the caller's payload, with nothing left over; and the call returns the number of bytes written. -/
theorem C01_send (c : Conn) (p : Bytes) (op : Nat) (k : Bytes) (ks : List Bytes)
    (hw : Writable c) (hop : op ∈ Gen.opcodes) (hlen : p.length < 2 ^ 63)
    (hkeys : c.keys = k :: ks) (hk : k.length = 4) :
    ∃ w c', c.send p op = (.ok w.length, c') ∧ c'.sock.wire = c.sock.wire ++ w ∧
      decode w = .frame { fin := 1, rsv1 := 0, rsv2 := 0, rsv3 := 0, opcode := op, masked := true, key := k,
                          lenForm := minimalForm p.length, payload := p } [] ∧
      c'.keyDraws = c.keyDraws + 1 ∧ c'.keys = ks := by
  obtain ⟨w, hfmt, hdec, _⟩ := WS.Props.C01.C01_wire 1 op k p (Nat.le_refl 1) hop hk hlen
  obtain ⟨s, hsend, hwrote⟩ := sendFrame_ok c (createFrame p op) w hw (by rw [hkeys]; exact hfmt)
  exact ⟨w, _, hsend, hwrote.wire, hdec, rfl, congrArg List.tail hkeys⟩

end WS.Props.C01b
