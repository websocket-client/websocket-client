/-
  WS.Props.C16c — C16, the interleaving of the ping thread with `check()` itself (finding F19).
  The App / Keepalive models treat `check()` as one atomic evaluation of (now, last_ping_tm, last_pong_tm).  The pinned
  commit's `check()` read `self.last_ping_tm` four times (expiry test, two pong tests, the truthiness guard) while the ping
  thread stamps it concurrently; `checkTorn` is that function with the four reads made explicit.  With a single read it IS
  the modelled predicate (`checkTorn_single`) — which is what the repaired code does (generated fact
  `appCheckReadsPingOnce`) — and a single read taken at or after the stamp never reports at the tick of the stamp; with
  torn reads a peer that has not even been pinged yet is reported at the tick of the first ping
  (`C16_torn_read_counterexample`, replayed on the real code by `harness/props/c16.py::run_check_race`).
-/
import WS.Model.App
namespace WS.Props.C16c
open WS WS.Model WS.Model.App

/-- `check()` with its reads of `self.last_ping_tm` made explicit: `r1` in `time.time() - last_ping_tm > ping_timeout`,
    `r2` in `last_pong_tm - last_ping_tm < 0`, `r3` in `last_pong_tm - last_ping_tm > ping_timeout`, `r4` in the guard
    `if self.last_ping_tm and …`.  `last_pong_tm` is written by the checking thread itself and cannot change in between. -/
def checkTorn (to : Int) (now lastPong r1 r2 r3 r4 : Nat) : Bool :=
  to ≠ 0 && r4 ≠ 0 &&
  decide ((now : Int) - r1 > to) &&
  (decide ((lastPong : Int) - r2 < 0) || decide ((lastPong : Int) - r3 > to))

/-- the source reads the stamp once (regenerated from /repo on every run; F19's repair) -/
theorem check_reads_ping_once_in_source : Gen.appCheckReadsPingOnce = true := by decide

/-- **checkTorn_single** — when all reads see the same value (one read: the repaired code), the torn check is exactly the
    predicate the App model uses, for every state and setting. -/
theorem checkTorn_single (c : Cfg) (s : St) (to : Int) (h : c.to = some to) :
    checkFails c s = checkTorn to s.now s.lastPong s.lastPing s.lastPing s.lastPing s.lastPing := by
  simp [checkFails, checkTorn, h]

/-- **C16_single_read_quiet_at_stamp** — with ONE read, whatever value it returns (the stamp before the ping thread's
    write or after it), `check()` does not report at a tick `now ≤ stamp + to`: in particular never at the tick of the stamp,
    and never for a ping that is not yet `to` old.  (`to ≥ 0`: accepted settings.) -/
theorem C16_single_read_quiet_at_stamp (to : Int) (hto : 0 ≤ to) (now lastPong lp : Nat) (h : (now : Int) ≤ lp + to) :
    checkTorn to now lastPong lp lp lp lp = false := by
  unfold checkTorn
  have : ¬ ((now : Int) - lp > to) := by omega
  simp [this]

/-- **C16_single_read_answered_quiet** — with ONE read, a stamp whose ping has been answered in time
    (`lp ≤ lastPong ≤ lp + to`) is never reported, however late `check()` runs. -/
theorem C16_single_read_answered_quiet (to : Int) (now lastPong lp : Nat) (h1 : lp ≤ lastPong) (h2 : (lastPong : Int) ≤ lp + to) :
    checkTorn to now lastPong lp lp lp lp = false := by
  unfold checkTorn
  have a : ¬ ((lastPong : Int) - lp < 0) := by omega
  have b : ¬ ((lastPong : Int) - lp > to) := by omega
  simp [a, b]

/-- **C16_torn_read_counterexample** (the former behaviour, F19) — interval 2 s, timeout 1 s, `check()` runs at tick 4096
    where the first ping is due; no ping has been sent (`last_ping_tm = 0`, `last_pong_tm = 0`).  The expiry test reads 0
    (4096 − 0 > 1024), the ping thread stamps 4096 and sends the ping, the remaining reads see 4096: "pong not arrived",
    guard truthy → a ping/pong timeout is reported at the very tick of the first ping. -/
theorem C16_torn_read_counterexample : checkTorn 1024 4096 0 0 4096 4096 4096 = true := by decide

/-- the same race later in a connection: ping at 4096 answered at 4097; at 6144 the expiry test reads the answered stamp
    4096 (6144 − 4096 > 1024), the ping thread re-stamps 6144, "pong not arrived" (4097 − 6144 < 0) → a peer that answers
    every ping after one tick is reported. -/
theorem C16_torn_read_counterexample_later : checkTorn 1024 6144 4097 4096 6144 6144 6144 = true := by decide

/-- and with one read neither of the two situations reports, whichever value the read returns -/
example : checkTorn 1024 4096 0 0 0 0 0 = false ∧ checkTorn 1024 4096 0 4096 4096 4096 4096 = false ∧
          checkTorn 1024 6144 4097 4096 4096 4096 4096 = false ∧ checkTorn 1024 6144 4097 6144 6144 6144 6144 = false := by decide

/-! ### the two stamps under interleaving: test-then-assign in one thread, the other thread's whole step in between -/

/-- the two keepalive stamps (shared, unlocked) -/
structure Stamps where
  lastPing : Nat
  lastPong : Nat
  deriving DecidableEq, Repr

/-- `_send_ping`: `if self.last_pong_tm >= self.last_ping_tm: self.last_ping_tm = now` (generated fact `appPingStampWhenAnswered`) -/
def pingStep (now : Nat) (s : Stamps) : Stamps := if s.lastPong ≥ s.lastPing then { s with lastPing := now } else s

/-- `read()` at a pong: `if self.last_pong_tm < self.last_ping_tm: self.last_pong_tm = now` (`appPongStampWhenOutstanding`) -/
def pongStep (now : Nat) (s : Stamps) : Stamps := if s.lastPong < s.lastPing then { s with lastPong := now } else s

/-- the ping thread preempted between its test and its assignment; the loop thread's whole pong step runs in between -/
def pingTorn (now other : Nat) (s : Stamps) : Stamps :=
  let t := decide (s.lastPong ≥ s.lastPing)
  let s' := pongStep other s
  if t then { s' with lastPing := now } else s'

/-- the loop thread preempted between its test and its assignment; the ping thread's whole step runs in between -/
def pongTorn (now other : Nat) (s : Stamps) : Stamps :=
  let t := decide (s.lastPong < s.lastPing)
  let s' := pingStep other s
  if t then { s' with lastPong := now } else s'

/-- **C16_stamps_linearizable** — the two guarded stamps (F12's repair) are written under complementary conditions, so
    tearing either thread's test-then-assign around the other thread's step changes nothing: the result is the result of
    one of the two atomic orders.  (This is why `run_check_race` finds nothing at the lines of the pong stamping, and why
    the atomic-step models are faithful there; the torn READS of `check()` were another matter: F19.) -/
theorem C16_stamps_linearizable (now other : Nat) (s : Stamps) :
    (pingTorn now other s = pongStep other (pingStep now s) ∨ pingTorn now other s = pingStep now (pongStep other s)) ∧
    (pongTorn now other s = pingStep other (pongStep now s) ∨ pongTorn now other s = pongStep now (pingStep other s)) := by
  constructor
  · by_cases h : s.lastPong ≥ s.lastPing
    · right
      simp [pingTorn, pongStep, pingStep, h, Nat.not_lt.2 h]
    · left
      simp [pingTorn, pongStep, pingStep, h]
  · by_cases h : s.lastPong < s.lastPing
    · right
      simp [pongTorn, pongStep, pingStep, h, Nat.not_le.2 h]
    · left
      simp [pongTorn, pongStep, pingStep, h]

/-- the step functions are the ones of the source (generated facts) -/
theorem stamp_steps_in_source : Gen.appPingStampWhenAnswered = true ∧ Gen.appPongStampWhenOutstanding = true := by decide

end WS.Props.C16c
