/-
  WS.Props.C15c — C15 for connections that were ESTABLISHED and then lost ("automatic reconnection restores service
  after loss"), built-in dispatcher loop.  `C15_retry` covers attempts that fail before a connection exists; here every
  attempt before the last one either fails (refused / rejected) or is established, carries any legal traffic and is
  then lost by end of stream, reset, a protocol violation or an undecodable text message — in any mix, any number.
-/
import WS.Lemmas.AppLost
namespace WS.Props.C15c
open WS WS.Model.App WS.Lemmas.App
open WS.Spec.AppTrace (cbOnly)

/-- **C15_resumes** — reconnect interval `r > 0`, callbacks that return or raise, any subset of callbacks.  The attempts
    `a :: as` each fail or are established-then-lost (`Att.Ok`); the next one is established, carries `legal` and is
    closed by the server.  Then the run returns (True: an error was reported) and its network skeleton is exactly:
    the first dial at t₀ with the release that attempt itself performs (`attClose`: a failed dial and an end of stream
    release the socket at once); then per further attempt `sleep r` starting at the very tick the previous attempt was
    over, the release of a transport the previous connection left open (reset, refused frame: `relTrace`, BEFORE the
    dial), the dial exactly `r` later on the next socket index, and that attempt's own release (`attsTrace`); finally
    `sleep r`, release, the successful dial number `|as| + 2`, and after the server's close frame no further dial —
    the last reference is dropped and `run_forever` returns.  So service is restored after EVERY loss, one connection
    at a time, each retry exactly one interval after the loss.
    Callbacks (third conjunct): the first attempt's failure or loss is reported to on_error once (`attCb … false`); a
    re-established connection that is lost again reports NOTHING to on_error (`handleDisconnect(e, reconnecting=True)`);
    every established connection starts with its opening callback (on_reconnect for a re-established one when set, else
    on_open) and delivers exactly the Spec's `expectedDeliveries` at their arrival times (`attCb`, `attsCb`); the last
    connection ends with on_close(code, reason) of the server's close frame, called once, last (`finalCb`). -/
theorem C15_resumes (c : Cfg) (hq : Quiet c) (hacc : argsAccepted c.iv c.to = true) (hiv : c.iv = 0)
    (hr : c.reconnect ≠ 0) (s0 : St) (a : Att) (as : List Att) (legal : List TEv) (te : TEv) (body : Bytes)
    (hs0 : s0.sock = none) (hp0 : s0.ping = none) (hl0 : s0.lastPing = 0)
    (hd : s0.dials = (a :: as).map Att.toDial ++ [.established (legal ++ [te])])
    (hok : ∀ x ∈ a :: as, x.Ok)
    (hleg : ∀ e ∈ legal, isLegal e.ev = true) (hk : te.ev = .close body)
    (hfuel : need0 (selectTimeout c) (legal ++ [te]) + 1 ≤ c.fuel)
    (hfl : ∀ x ∈ a :: as, x.fuel (selectTimeout c) ≤ c.fuel) (hfuel2 : as.length + 2 ≤ c.fuel)
    (hz : endTime (attsEnd c.reconnect (attEnd s0.now a) as + c.reconnect) (legal ++ [te]) ≤ c.horizon) :
    let r := c.reconnect
    let t1 := attEnd s0.now a
    let i1 := s0.nextIdx + 1
    let o1 := attOpen s0.nextIdx a
    let tK := attsEnd r t1 as
    let iK := i1 + as.length
    let tEnd := endTime (tK + r) (legal ++ [te])
    (runForeverO c s0).2 = .returned true ∧
    netOnly (runForever c s0).trace =
      netOnly s0.trace ++ [(s0.now, .dial s0.nextIdx)] ++ attClose s0.now s0.nextIdx a ++
        attsTrace r t1 i1 o1 as ++
        [(tK, .sleep r)] ++ relTrace (tK + r) (attsOpen i1 o1 as) ++
        [(tK + r, .dial iK), (tEnd, .sockDropped iK), (tEnd, .returned true)] ∧
    cbOnly (runForever c s0).trace =
      cbOnly s0.trace ++ (attCb c false s0.calls s0.now a).1 ++
        (attsCb c r (attCb c false s0.calls s0.now a).2 t1 as).1 ++
        finalCb c (attsCb c r (attCb c false s0.calls s0.now a).2 t1 as).2 (tK + r) legal te body :=
  run_resumes c hq hacc hiv hr s0 a as legal te body hs0 hp0 (Or.inr hl0) hd hok hleg hk hfuel hfl hfuel2 hz

/-- the retries of `C15_resumes` are evenly spaced: each attempt is dialled exactly `r` after the previous one was over,
    preceded by a `sleep r` that started at that very tick (read off `attsTrace`; the first three or four entries) -/
theorem C15_resumes_spacing (r t i : Nat) (o : Option Nat) (a : Att) (as : List Att) :
    (attsTrace r t i o (a :: as)).head? = some (t, .sleep r) ∧
    (t + r, Ev.dial i) ∈ attsTrace r t i o (a :: as) ∧
    (∀ j, o = some j → (attsTrace r t i o (a :: as))[1]? = some (t + r, .sockClosed j) ∧
                       (attsTrace r t i o (a :: as))[2]? = some (t + r, .dial i)) ∧
    (o = none → (attsTrace r t i o (a :: as))[1]? = some (t + r, .dial i)) := by
  refine ⟨rfl, by simp [attsTrace], ?_, ?_⟩
  · rintro j rfl
    exact ⟨rfl, rfl⟩
  · rintro rfl
    rfl

/-- after a lost connection the transport it left open is released BEFORE the next dial, and an attempt never leaves
    more than its own transport open: what is open after the attempts is at most the last attempt's own socket -/
theorem C15_resumes_one_open : ∀ (as : List Att) (i : Nat) (o : Option Nat),
    attsOpen i o as = o ∨ ∃ k, k < as.length ∧ attsOpen i o as = some (i + k) ∨ attsOpen i o as = none := by
  intro as i o
  rcases List.eq_nil_or_concat as with rfl | ⟨l, a, rfl⟩
  · exact Or.inl rfl
  · rw [List.concat_eq_append, attsOpen_concat]
    rcases attOpen_cases (i + l.length) a with h | h
    · exact Or.inr ⟨0, Or.inr h⟩
    · exact Or.inr ⟨l.length, Or.inl ⟨by simp, h⟩⟩

/-- hypotheses of `C15_resumes` are satisfiable, and its conclusion evaluated on the world of `C15`'s example with a
    reset connection added (an established connection lost by end of stream, a refused retry, a connection reset by the
    peer, then one the server closes): the closed form of the theorem equals what the model computes. -/
example :
    let c : Cfg := { has := fun _ => true, plan := fun _ => [], iv := 0, to := none, payload := [],
                     reconnect := 1024, ssl := false, horizon := 100000, fuel := 50 }
    let a : Att := .lost [⟨100, false, .message 2 [1] false⟩] ⟨100, false, .eof⟩
    let as : List Att := [.fail .refused, .lost [⟨5, false, .ping [7]⟩] ⟨20, false, .reset⟩]
    let legal : List TEv := [⟨70, false, .message 1 [0x61] false⟩]
    let te : TEv := ⟨40, false, .close [3, 232]⟩
    let w : St := { dials := (a :: as).map Att.toDial ++ [.established (legal ++ [te])] }
    netOnly (runForever c w).trace =
      [(0, .dial 0)] ++ attClose 0 0 a ++ attsTrace 1024 (attEnd 0 a) 1 (attOpen 0 a) as ++
        [(attsEnd 1024 (attEnd 0 a) as, .sleep 1024)] ++
        relTrace (attsEnd 1024 (attEnd 0 a) as + 1024) (attsOpen 1 (attOpen 0 a) as) ++
        [(attsEnd 1024 (attEnd 0 a) as + 1024, .dial 3), (3407, .sockDropped 3), (3407, .returned true)] ∧
    netOnly (runForever c w).trace =
      [(0, .dial 0), (200, .sockClosed 0), (200, .sleep 1024), (1224, .dial 1), (1224, .sockClosed 1),
       (1224, .sleep 1024), (2248, .dial 2), (2273, .sleep 1024), (3297, .sockClosed 2), (3297, .dial 3),
       (3407, .sockDropped 3), (3407, .returned true)] := by
  decide +kernel

/-- a trace without `sockDropped` (the real run observes the dropping of the last reference through garbage collection only;
    the correspondence compares traces without it) -/
def noDrop (tr : Trace) : Trace :=
  tr.filter fun te => match te.2 with | .sockDropped _ => false | _ => true

theorem noDrop_append (a b : Trace) : noDrop (a ++ b) = noDrop a ++ noDrop b := by simp [noDrop]

theorem noDrop_attClose (t i : Nat) (a : Att) : noDrop (attClose t i a) = attClose t i a := by
  rcases attClose_cases t i a with h | h <;> simp [h, noDrop]

theorem noDrop_relTrace (t : Nat) (o : Option Nat) : noDrop (relTrace t o) = relTrace t o := by
  cases o <;> rfl

theorem noDrop_attsTrace (r : Nat) : ∀ (as : List Att) (t i : Nat) (o : Option Nat),
    noDrop (attsTrace r t i o as) = attsTrace r t i o as := by
  intro as
  induction as with
  | nil =>
    intro t i o
    rfl
  | cons a l ih =>
    intro t i o
    simp only [attsTrace, noDrop_append, noDrop_attClose, noDrop_relTrace, ih]
    simp [noDrop]

/-- **C15_resumes_closed_form** — `C15_resumes` for a freshly constructed object, as ONE executable function of the world:
    the network skeleton of the run (without `sockDropped`) is `resumesSkeleton r a as final`.  The driver op `s-c15-resumes`
    evaluates exactly this function, and `harness/props/c15.py` compares it with the skeleton of the REAL `run_forever` on every
    world of that shape — the theorem's closed form is tied to the code directly, not only through the model. -/
theorem C15_resumes_closed_form (c : Cfg) (hq : Quiet c) (hacc : argsAccepted c.iv c.to = true) (hiv : c.iv = 0)
    (hr : c.reconnect ≠ 0) (a : Att) (as : List Att) (legal : List TEv) (te : TEv) (body : Bytes)
    (hok : ∀ x ∈ a :: as, x.Ok)
    (hleg : ∀ e ∈ legal, isLegal e.ev = true) (hk : te.ev = .close body)
    (hfuel : need0 (selectTimeout c) (legal ++ [te]) + 1 ≤ c.fuel)
    (hfl : ∀ x ∈ a :: as, x.fuel (selectTimeout c) ≤ c.fuel) (hfuel2 : as.length + 2 ≤ c.fuel)
    (hz : endTime (attsEnd c.reconnect (attEnd 0 a) as + c.reconnect) (legal ++ [te]) ≤ c.horizon) :
    noDrop (netOnly (runForever c { dials := (a :: as).map Att.toDial ++ [.established (legal ++ [te])] }).trace) =
      resumesSkeleton c.reconnect a as (legal ++ [te]) := by
  rw [(C15_resumes c hq hacc hiv hr { dials := (a :: as).map Att.toDial ++ [.established (legal ++ [te])] }
    a as legal te body rfl rfl rfl rfl hok hleg hk hfuel hfl hfuel2 hz).2.1]
  simp only [resumesSkeleton, noDrop_append, noDrop_attClose, noDrop_relTrace, noDrop_attsTrace, netOnly]
  simp [noDrop, Nat.add_comm]

/-- the world of the example above is recognised by `resumesOfWorld` and gives the computed skeleton -/
example :
    let c : Cfg := { has := fun _ => true, plan := fun _ => [], iv := 0, to := none, payload := [],
                     reconnect := 1024, ssl := false, horizon := 100000, fuel := 50 }
    let w : List Dial := [.established [⟨100, false, .message 2 [1] false⟩, ⟨100, false, .eof⟩], .refused,
                          .established [⟨5, false, .ping [7]⟩, ⟨20, false, .reset⟩],
                          .established [⟨70, false, .message 1 [0x61] false⟩, ⟨40, false, .close [3, 232]⟩]]
    resumesOfWorld 1024 w = some (noDrop (netOnly (runForever c { dials := w }).trace)) := by
  decide +kernel

/-- the socket indices of the connection attempts in a trace, in order -/
def dialIdx (tr : Trace) : List Nat := tr.filterMap fun te => match te.2 with | .dial i => some i | _ => none

/-- **C15_resumes_one_dial_per_attempt** — in the retries of `C15_resumes` every attempt is dialled exactly once, on the next
    socket index: no loss is followed by two attempts, none by none. -/
theorem C15_resumes_one_dial_per_attempt (r : Nat) : ∀ (as : List Att) (t i : Nat) (o : Option Nat),
    dialIdx (attsTrace r t i o as) = List.range' i as.length := by
  intro as
  induction as with
  | nil =>
    intro t i o
    rfl
  | cons a l ih =>
    intro t i o
    simp only [dialIdx] at ih ⊢
    -- the release before the dial and the attempt's own: one `sockClosed` each, or nothing
    rcases attClose_cases (t + r) i a with h | h <;> cases o <;>
      simp [attsTrace, h, relTrace, ih, List.range'_succ]

/-- every retry of `C15_resumes` sleeps exactly the configured interval: the sleeps of `attsTrace` are `|as|` times `r` -/
theorem C15_resumes_sleeps (r : Nat) : ∀ (as : List Att) (t i : Nat) (o : Option Nat),
    (attsTrace r t i o as).filterMap (fun te => match te.2 with | .sleep d => some d | _ => none) =
      List.replicate as.length r := by
  intro as
  induction as with
  | nil =>
    intro t i o
    rfl
  | cons a l ih =>
    intro t i o
    -- the same four cases: no `sockClosed` is a sleep
    rcases attClose_cases (t + r) i a with h | h <;> cases o <;>
      simp [attsTrace, h, relTrace, ih, List.replicate_succ]

/-- **C15_resumes_recogniser_sound** — the driver op `s-c15-resumes` (= `resumesOfWorld`) answers with a skeleton only for
    worlds `C15_resumes` quantifies over (at least one attempt that fails or is established-then-lost with legal traffic
    before the loss, then a connection with legal traffic closed by the server), and its answer is the theorem's closed
    form for that world: what the harness compares the REAL runs with is the statement of the theorem, not a re-implementation. -/
theorem C15_resumes_recogniser_sound (r : Nat) (w : List Dial) (tr : Trace) (h : resumesOfWorld r w = some tr) :
    ∃ a as legal te body, w = (a :: as).map Att.toDial ++ [.established (legal ++ [te])] ∧ (∀ x ∈ a :: as, x.Ok) ∧
      (∀ e ∈ legal, isLegal e.ev = true) ∧ te.ev = .close body ∧ tr = resumesSkeleton r a as (legal ++ [te]) := by
  unfold resumesOfWorld at h
  split at h
  next final a as hl ha =>
    split at h
    next te hf =>
      split at h
      next body hk =>
        split at h
        next hc =>
          cases h
          obtain ⟨o1, o2⟩ := attsOf_sound _ _ ha
          obtain ⟨ws, rfl⟩ := List.getLast?_eq_some_iff.1 hl
          obtain ⟨legal, rfl⟩ := List.getLast?_eq_some_iff.1 hf
          simp only [List.dropLast_concat] at o2 hc ⊢
          exact ⟨a, as, legal, te, body, by rw [o2], o1, by simpa [List.all_eq_true] using hc, hk, rfl⟩
        next => cases h
      next => cases h
    next => cases h
  next => cases h

end WS.Props.C15c
