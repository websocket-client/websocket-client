/-
  WS.Props.C14e — C14 for RECONNECTING runs (`C14_terminates` / `C14_close_args` cover one connection): corollaries of
  `C15c.C15_resumes`.
-/
import WS.Props.C13b
import WS.Props.C15c
namespace WS.Props.C14e
open WS WS.Model.App WS.Lemmas.App
open WS.Spec.AppTrace (cbOnly)

/-- **C14_terminates_reconnecting** (termination and the close arguments of a reconnecting run) — a run with a reconnect
    interval whose attempts fail or are established and lost, in any mix and number, until the server closes a connection:
    `run_forever` RETURNS (True: errors were reported on the way), and the last callback of the whole run is on_close with
    the status code and reason of the server's close frame (`closeArgs`), at the tick the frame arrived — whatever happened
    on the connections before. -/
theorem C14_terminates_reconnecting (c : Cfg) (hq : Quiet c) (hacc : argsAccepted c.iv c.to = true) (hiv : c.iv = 0)
    (hr : c.reconnect ≠ 0) (hoc : c.has .onClose = true)
    (s0 : St) (a : Att) (as : List Att) (legal : List TEv) (te : TEv) (body : Bytes)
    (hs0 : s0.sock = none) (hp0 : s0.ping = none) (hl0 : s0.lastPing = 0)
    (hd : s0.dials = (a :: as).map Att.toDial ++ [.established (legal ++ [te])])
    (hok : ∀ x ∈ a :: as, x.Ok)
    (hleg : ∀ e ∈ legal, isLegal e.ev = true) (hk : te.ev = .close body)
    (hfuel : need0 (selectTimeout c) (legal ++ [te]) + 1 ≤ c.fuel)
    (hfl : ∀ x ∈ a :: as, x.fuel (selectTimeout c) ≤ c.fuel) (hfuel2 : as.length + 2 ≤ c.fuel)
    (hz : endTime (attsEnd c.reconnect (attEnd s0.now a) as + c.reconnect) (legal ++ [te]) ≤ c.horizon) :
    (runForeverO c s0).2 = .returned true ∧
    (cbOnly (runForever c s0).trace).getLast? =
      some (endTime (attsEnd c.reconnect (attEnd s0.now a) as + c.reconnect) (legal ++ [te]),
            .cb .onClose (closeArgs c (some body))) := by
  obtain ⟨h_ret, -, h_cb⟩ :=
    C15c.C15_resumes c hq hacc hiv hr s0 a as legal te body hs0 hp0 hl0 hd hok hleg hk hfuel hfl hfuel2 hz
  exact ⟨h_ret, h_cb ▸ finalCb_getLast? c hq hoc _ _ _ legal te body⟩

/-- the same with the ping thread running (any interval ≥ 0, no ping timeout, every schedule): the lift of the theorem above
    through `C13b.ka_lift` -/
theorem C14_terminates_reconnecting_keepalive (c : Cfg) (hq : Quiet c) (hto : c.to = none) (hiv : 0 ≤ c.iv)
    (hr : c.reconnect ≠ 0) (hoc : c.has .onClose = true)
    (s0 : St) (a : Att) (as : List Att) (legal : List TEv) (te : TEv) (body : Bytes)
    (hs0 : s0.sock = none)
    (hd : s0.dials = (a :: as).map Att.toDial ++ [.established (legal ++ [te])])
    (hok : ∀ x ∈ a :: as, x.Ok)
    (hleg : ∀ e ∈ legal, isLegal e.ev = true) (hk : te.ev = .close body)
    (hfuel : need0 (selectTimeout c) (legal ++ [te]) + 1 ≤ c.fuel)
    (hfl : ∀ x ∈ a :: as, x.fuel (selectTimeout c) ≤ c.fuel) (hfuel2 : as.length + 2 ≤ c.fuel)
    (hz : endTime (attsEnd c.reconnect (attEnd s0.now a) as + c.reconnect) (legal ++ [te]) ≤ c.horizon) :
    (runForeverO c s0).2 = .returned true ∧
    (cbOnly (runForever c s0).trace).getLast? =
      some (endTime (attsEnd c.reconnect (attEnd s0.now a) as + c.reconnect) (legal ++ [te]),
            .cb .onClose (closeArgs c (some body))) := by
  obtain ⟨ho, _, hc⟩ := C13b.ka_lift c hto hiv s0
  rw [ho, hc]
  exact C14_terminates_reconnecting (KA.off c) hq (KA.acc_off c hto) rfl hr hoc (KA.P s0) a as legal te body hs0 rfl rfl hd
    hok hleg hk hfuel hfl hfuel2 hz

end WS.Props.C14e
