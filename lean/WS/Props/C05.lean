/-
  WS.Props.C05 — frames the RFC forbids are rejected with a protocol error.  This file: the code's table of close status
  codes is the RFC's list; the rejection theorems are in `Props.C05b` (frame level, sequencing) and `Props.C05c`.
-/
import WS.Lemmas.Frame
namespace WS.Props.C05
open WS WS.Spec WS.Model

theorem table_in_range : ∀ x ∈ Gen.validCloseStatus, 1000 ≤ x ∧ x ≤ 1014 := by decide

/-- the block 1000–1014, where the tuple and the RFC's list have their gaps, value by value. -/
theorem table_block : ∀ i < 15, isValidCloseStatus (1000 + i) = wireCode (1000 + i) := by decide

/-- **C05_close_codes** — table obligation over the generated `VALID_CLOSE_STATUS` tuple and the two
    range literals of `_is_valid_close_status`: for *every* number (in particular all 65536 values a
    close frame can carry) the code's test agrees with the RFC 6455 §7.4 / IANA rule written as ranges:
    1000–1014 except 1004/1005/1006, and 3000–4999. -/
theorem C05_close_codes (c : Nat) : isValidCloseStatus c = wireCode c := by
  by_cases h : 1000 ≤ c ∧ c ≤ 1014
  · have := table_block (c - 1000) (by omega)
    rwa [Nat.add_sub_cancel' h.1] at this
  · -- outside the block the tuple has no entry and both tests are the range 3000–4999
    have hnot : Gen.validCloseStatus.contains c = false :=
      Bool.eq_false_iff.2 fun hc => h (table_in_range c (List.contains_iff_mem.1 hc))
    have hlt : decide (c < Gen.closeRangeHi) = decide (c ≤ 4999) := decide_eq_decide.2 Nat.lt_succ_iff
    rw [isValidCloseStatus, wireCode, hnot, hlt, ← Bool.decide_and (1000 ≤ c), decide_eq_false h]
    rfl

/-- generated fact: iteration is receiving — `__iter__` is exactly `while True: yield self.recv()`, `__next__` is
    `return self.recv()`, `next` is `return self.__next__()`; the model's one receive operation stands for all of them (the
    correspondence runs every other session through these spellings). -/
theorem iteration_is_recv : Gen.iterationIsRecv = true := by decide

end WS.Props.C05
