/-
  WS.Props.C12 — each send puts one intact frame on the wire under partial writes and threads.
-/
import WS.Lemmas.ShortWrites
import WS.Lemmas.Threads
namespace WS.Props.C12
open WS WS.Model WS.Lemmas.ShortWrites

/-- generated lock-scope facts: the write loop of `send_frame` is lexically inside `with self.lock`,
    `recv()` holds `readlock` around `recv_data`, `recv_frame` holds the frame-buffer lock. -/
theorem lock_scopes : Gen.sendLoopUnderLock = true ∧ Gen.recvUnderReadlock = true ∧ Gen.frameUnderLock = true := by
  decide

/-- … and "the default thread-safe configuration": both ways of building the object — `WebSocket()` and the documented
    factory `create_connection()` — install real locks unless the caller says otherwise (generated from the defaults). -/
theorem locks_by_default : Gen.multithreadDefaultInit = true ∧ Gen.multithreadDefaultFactory = true ∧
    Gen.appSockMultithread = true := by
  decide

/-- **C12_short_writes** — however the transport accepts bytes (any cyclic pattern of accepted sizes, each
    clipped to 1..remaining), the write loop returns normally and the bytes added to the wire are exactly
    `data` — for every `data`, every pattern, every starting state of an open socket. -/
theorem C12_short_writes (c : Conn) (data : Bytes) (hw : Writable c) :
    ∃ c', Conn.sendLoop (data.length + 1) c data = (none, c') ∧ c'.sock.wire = c.sock.wire ++ data ∧ Writable c' :=
  sendLoop_writes_all (data.length + 1) c data hw (by omega)

/-- **C12_one_frame_per_send** — `send_frame` of any formattable frame on a writable socket returns the
    length of the formatted frame and adds exactly the formatted frame to the wire. -/
theorem C12_one_frame_per_send (c : Conn) (f : Frame) (w : Bytes) (hw : Writable c)
    (hf : format f (c.keys.headD [0, 0, 0, 0]) = .ok w) :
    ∃ c', c.sendFrame f = (.ok w.length, c') ∧ c'.sock.wire = c.sock.wire ++ w :=
  let ⟨_, h, hwrote⟩ := sendFrame_ok c f w hw hf
  ⟨_, h, hwrote.wire⟩

open WS.Model.Threads WS.Lemmas.Threads in
/-- **C12_senders** — for any number `n` of threads, any frames, any short-write pattern and **every
    schedule** (list of thread ids < n): whenever the lock is free — in particular when all have finished —
    the wire is exactly the concatenation of whole frames of the threads that completed, in completion
    order; and while a thread holds the lock the wire is that plus a prefix of the holder's frame.
    Completed threads are listed once each. -/
theorem C12_senders (n : Nat) (frames : Nat → Bytes) (acc : Nat → Nat) (sched : List Nat)
    (hs : ∀ i ∈ sched, i < n) :
    let s := run Gen.sendLoopUnderLock frames acc (init frames) sched
    s.order.Nodup ∧ (∀ i ∈ s.order, i < n) ∧ (∀ i, s.pc i = .done ↔ i ∈ s.order) ∧
    (s.holder = none → s.wire = (s.order.map frames).flatten) ∧
    (∀ h, s.holder = some h → ∃ pre rest, frames h = pre ++ rest ∧ s.wire = (s.order.map frames).flatten ++ pre) := by
  rw [lock_scopes.1]
  have hinv := inv_reach n frames acc sched hs
  refine ⟨hinv.log.nodup, hinv.bound, hinv.log.iff, hinv.sect.free, fun h hh => ?_⟩
  obtain ⟨_, pre, rest, _, hfr, hw⟩ := hinv.sect.held h hh
  exact ⟨pre, rest, hfr, hw⟩

open WS.Model.Threads WS.Lemmas.Threads in
/-- when all `n` threads are done the lock is free, so the wire is a serial order of whole frames. -/
theorem C12_senders_all_done (n : Nat) (frames : Nat → Bytes) (acc : Nat → Nat) (sched : List Nat)
    (hs : ∀ i ∈ sched, i < n)
    (hdone : ∀ i, i < n → (run Gen.sendLoopUnderLock frames acc (init frames) sched).pc i = .done) (hn : 0 < n) :
    let s := run Gen.sendLoopUnderLock frames acc (init frames) sched
    s.wire = (s.order.map frames).flatten ∧ s.order.Nodup ∧ (∀ i, i < n ↔ i ∈ s.order) := by
  rw [lock_scopes.1] at hdone ⊢
  intro s
  have hinv : TInv n frames s := inv_reach n frames acc sched hs
  refine ⟨hinv.sect.free ?_, hinv.log.nodup, fun i => ⟨fun hi => (hinv.log.iff i).1 (hdone i hi), hinv.bound i⟩⟩
  -- a holder would be a thread below `n` inside the loop, not done
  cases hh : s.holder with
  | none => rfl
  | some h =>
    obtain ⟨hlt, _, _, hp, _⟩ := hinv.sect.held h hh
    exact nomatch hp.symm.trans (hdone h hlt)

end WS.Props.C12
