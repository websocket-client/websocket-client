/-
  WS.Props.C12d — the write loop of `send_frame` over the real transport glue (`_socket.send`), would-block worlds included:
  whatever the transport does call by call, what it has accepted is a prefix of the frame; the loop ends normally only when
  the whole frame has been accepted; a would-block whose wait expires neither loses nor repeats a byte.
-/
import WS.Model.SendGlue
namespace WS.Props.C12d
open WS WS.Model.Glue WS.Model.SendGlue

/-- **C12_glue_prefix** — for EVERY list of transport worlds (short writes of any size — zero and over-long included —,
    would-block with the wait expiring or not, timeouts, end of stream, OS errors; blocking or non-blocking), every frame and
    everything accepted before: the transport has accepted the old bytes followed by a PREFIX of the frame, never anything
    else, whatever way the loop ends. -/
theorem C12_glue_prefix (nb : Bool) : ∀ (ws : List World) (data wire : Bytes),
    ∃ k, (sendLoop nb ws data wire).2 = wire ++ data.take k := by
  intro ws data wire
  -- the cases of `sendLoop`: 1 nothing left; 2 no world left; 3 `n` bytes accepted; 4 the wait expired; 5 the call raised
  fun_induction sendLoop nb ws data wire with
  | case3 w ws b bs wire n hs ih =>
    obtain ⟨k, h⟩ := ih
    exact ⟨n + k, by rw [h, List.take_add, List.append_assoc]⟩
  | case4 w ws b bs wire hs ih => exact ih
  | _ => exact ⟨0, (List.append_nil _).symm⟩

/-- **C12_glue_done** — the loop ends normally ONLY when the transport has accepted exactly the frame. -/
theorem C12_glue_done (nb : Bool) : ∀ (ws : List World) (data wire : Bytes),
    (sendLoop nb ws data wire).1 = .done → (sendLoop nb ws data wire).2 = wire ++ data := by
  intro ws data wire
  fun_induction sendLoop nb ws data wire with
  | case1 => exact fun _ => (List.append_nil _).symm
  | case3 w ws b bs wire n hs ih => exact fun h => by rw [ih h, List.append_assoc, List.take_append_drop]
  | case4 w ws b bs wire hs ih => exact ih
  | _ => nofun

/-- **C12_glue_would_block** — a `_socket.send` whose wait for writability expired (it returned None: `data[None:]`) changes
    nothing: the loop goes on with the same bytes, nothing lost, nothing written twice. -/
theorem C12_glue_would_block (nb : Bool) (w : World) (ws : List World) (data wire : Bytes)
    (h : send nb w.r1 w.ready w.r2 = .ok none) :
    sendLoop nb (w :: ws) data wire = sendLoop nb ws data wire := by
  cases data with
  | nil => cases ws <;> rfl
  | cons b bs => rw [sendLoop, h]

/-- **C12_glue_raised** — when the loop raises, it raises what that `_socket.send` call raised: TIMEOUT, CLOSED, or an
    exception the transport itself raised in that call (`C17_glue_send` says which) — never a value dressed up as an error. -/
theorem C12_glue_raised (nb : Bool) : ∀ (ws : List World) (data wire : Bytes) (o : OutS),
    (sendLoop nb ws data wire).1 = .raised o →
    (∃ w ∈ ws, send nb w.r1 w.ready w.r2 = o) ∧ ∀ v, o ≠ .ok v := by
  intro ws data wire o
  fun_induction sendLoop nb ws data wire with
  | case3 w ws b bs wire n hs ih | case4 w ws b bs wire hs ih =>
    intro h
    obtain ⟨⟨w', hw', e⟩, hv⟩ := ih h
    exact ⟨⟨w', List.mem_cons_of_mem _ hw', e⟩, hv⟩
  | case5 w ws b bs wire hsome hnone =>
    rintro ⟨⟩
    exact ⟨⟨w, List.mem_cons_self, rfl⟩, fun | none, e => hnone e | some n, e => hsome n e⟩
  | _ => nofun

/-- in the world `w` a `_socket.send` call accepts at least one byte: at once, or — would block, then ready — at the second. -/
def Progress (nb : Bool) (w : World) : Prop := ∃ n, 0 < n ∧ send nb w.r1 w.ready w.r2 = .ok (some n)

/-- **C12_glue_terminates** — if each `_socket.send` call accepts at least one byte, `len(frame)` calls are enough: the loop
    is done (no cut), for every pattern of short writes and would-blocks that resolve. -/
theorem C12_glue_terminates (nb : Bool) : ∀ (ws : List World) (data wire : Bytes),
    (∀ w ∈ ws, Progress nb w) → data.length ≤ ws.length → (sendLoop nb ws data wire).1 = .done := by
  intro ws
  induction ws with
  | nil =>
    rintro (_ | ⟨b, bs⟩) wire _ hl
    · rfl
    · cases hl
  | cons w rest ih =>
    rintro (_ | ⟨b, bs⟩) wire hp hl
    · rfl
    · obtain ⟨n, hn, hs⟩ := hp w List.mem_cons_self
      rw [sendLoop, hs]
      refine ih _ _ (fun w' hw' => hp w' (List.mem_cons_of_mem _ hw')) ?_
      simp only [List.length_drop, List.length_cons] at hl ⊢
      omega

/-- non-vacuity, executed: a 5-byte frame against [accepts 2] [would block, wait expires] [would block, then ready: accepts 1]
    [SSL want-write, ready: accepts 9]: done, the wire holds exactly the frame, 4 calls. And a timeout after 2 bytes: the wire
    holds the 2-byte prefix. -/
example :
    sendLoop false [⟨.accepted 2, false, .osErr⟩, ⟨.again, false, .osErr⟩, ⟨.again, true, .accepted 1⟩,
                    ⟨.wantWrite, true, .accepted 9⟩] [1, 2, 3, 4, 5] [] = (.done, [1, 2, 3, 4, 5]) ∧
    calls false [⟨.accepted 2, false, .osErr⟩, ⟨.again, false, .osErr⟩, ⟨.again, true, .accepted 1⟩,
                 ⟨.wantWrite, true, .accepted 9⟩] [1, 2, 3, 4, 5] = 4 ∧
    sendLoop false [⟨.accepted 2, false, .osErr⟩, ⟨.timeoutErr, false, .osErr⟩] [1, 2, 3, 4, 5] [] =
      (.raised .timeout, [1, 2]) := by decide

end WS.Props.C12d
