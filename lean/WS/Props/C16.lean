/-
  WS.Props.C16 — property theorems for C16 (keepalive): argument validation, periodic pings, no false
  positive for a responsive peer, detection bound for a silent peer.
-/
import WS.Model.App
import WS.Model.Keepalive
import WS.Spec.KeepaliveSpec
import WS.Lemmas.Keepalive
import WS.Lemmas.KeepaliveNFP
namespace WS.Props.C16
open WS WS.Model

/-- the comparisons of the validation in the source are the ones modelled (generated facts; an edit of
    `ping_timeout <= 0`, `ping_interval < 0` or `ping_interval <= ping_timeout` changes the table). -/
theorem arg_checks_in_source :
    Gen.appArgChecks = ["ping_timeout LtE 0", "ping_interval Lt 0", "ping_interval LtE ping_timeout"] := rfl

/-- generated facts about the keepalive code: `_send_ping` waits twice (once before and once inside the loop)
    before the first ping; `check()` compares with `>`, `<`, `>` in this order; the reader loop waits
    `ping_timeout or 10` seconds. -/
theorem keepalive_shape :
    Gen.appPingWaits = 2 ∧ Gen.appCheckOps = ["Gt", "Lt", "Gt"] ∧ Gen.dispatcherDefaultTimeout = 10 := by decide

/-- the liveness predicate of the two models is the same function of (now, last_ping_tm, last_pong_tm):
    `check()` in Model.App (integer arithmetic as in the code) = `checkFails` in Model.Keepalive. -/
theorem C16_check_same (c : App.Cfg) (s : App.St) (k : Keepalive.St) (to : Nat) (hto : c.to = some (to : Int))
    (h0 : to ≠ 0) (h1 : k.now = s.now) (h2 : k.lastPing = s.lastPing) (h3 : k.lastPong = s.lastPong) :
    App.checkFails c s = Keepalive.checkFails to k := by
  rw [Bool.eq_iff_iff, Lemmas.Keepalive.checkFails_iff, h1, h2, h3]
  simp only [App.checkFails, hto, Bool.and_eq_true, Bool.or_eq_true, decide_eq_true_eq, ne_eq]
  omega

/-- **C16_args** — the settings `run_forever` accepts are exactly the consistent ones:
    timeout absent or positive, interval non-negative, and, when both are in use, interval > timeout. -/
theorem C16_args (iv : Int) (to : Option Int) :
    App.argsAccepted iv to = true ↔
      (to = none ∨ ∃ t, to = some t ∧ t > 0) ∧ iv ≥ 0 ∧
      (∀ t, to = some t → t ≠ 0 → iv ≠ 0 → iv > t) := by
  cases to with
  | none =>
    simp [App.argsAccepted]
  | some t =>
    simp [App.argsAccepted]
    omega

/-- the model's validation is the Spec's predicate -/
theorem C16_args_spec (iv : Int) (to : Option Int) :
    App.argsAccepted iv to = Spec.Keepalive.argsOk iv to := by
  rw [Bool.eq_iff_iff]
  cases to <;> simp [App.argsAccepted, Spec.Keepalive.argsOk]

/-- inconsistent settings are refused before connecting: nothing but the exception is observable -/
theorem C16_args_refused_before_connecting (c : App.Cfg) (s : App.St)
    (h : App.argsAccepted c.iv c.to = false) :
    (App.runForever c s).trace = s.trace ++ [(s.now, .raisedOut .wsgeneric)] := by
  simp only [App.runForever, App.runForeverO, h, Bool.not_false, ↓reduceIte, App.St.emit]

example : App.argsAccepted 3072 (some 2048) = true ∧ App.argsAccepted 2048 (some 2048) = false ∧
    App.argsAccepted 0 (some 5) = true ∧ App.argsAccepted 5 (some 0) = false ∧
    App.argsAccepted (-1) none = false ∧ App.argsAccepted 7 none = true := by decide

open WS.Lemmas.Keepalive in
/-- **C16_periodic** — for every interval, timeout, arrival pattern, schedule, horizon and fuel: the pings
    the run sent are exactly the first `n` of the grid 2·iv, 3·iv, 4·iv, … (one per interval, none missing
    in between, none off the grid), `n` being their number. -/
theorem C16_periodic (iv to horizon fuel : Nat) (arr : List (Nat × Keepalive.Kind)) (sched : List Bool) :
    (Keepalive.run iv to horizon fuel arr sched).1 =
      pingTimes iv (Keepalive.run iv to horizon fuel arr sched).1.length :=
  (pinv_loop iv to horizon fuel _ (pinv_init iv arr sched)).1

/-- generated facts (repair of F12): `_send_ping` stamps `last_ping_tm` only when the previous ping has been answered
    (`last_pong_tm >= last_ping_tm`), `read()` stamps `last_pong_tm` only for the answer to the outstanding ping
    (`last_pong_tm < last_ping_tm`). -/
theorem stamps_in_source : Gen.appPingStampWhenAnswered = true ∧ Gen.appPongStampWhenOutstanding = true := by decide

open WS.Lemmas.Keepalive in
/-- **C16_detect** — for EVERY interval and timeout, every arrival pattern and schedule: if after `k` iterations of the
    loop (none of which reported or reached the horizon) the ping at `T` has been sent and the peer is silent from then
    on (`Window`: last_ping_tm = T, no pong since, only data frames still to come, the loop has not slept past T + to),
    then the run reports a ping/pong timeout at some tick `r` with `T + to < r ≤ T + 2·to` — no later than two timeouts
    after the first ping the peer failed to answer; the pings that follow it do not postpone the report. -/
theorem C16_detect (iv to horizon T fuel k : Nat) (arr : List (Nat × Keepalive.Kind)) (sched : List Bool)
    (hto : 0 < to) (hz : T + 2 * to ≤ horizon)
    (hq : quietFor iv to horizon k (Keepalive.init iv arr sched))
    (hw : Window iv to T (stepN iv to k (Keepalive.init iv arr sched)))
    (hf : k + arr.length + 2 ≤ fuel) :
    ∃ r, (Keepalive.run iv to horizon fuel arr sched).2 = some r ∧ T + to < r ∧ r ≤ T + 2 * to := by
  unfold Keepalive.run
  simp only []
  obtain ⟨n, rfl⟩ : ∃ n, fuel = k + n := ⟨fuel - k, by omega⟩
  rw [loop_skip iv to horizon k n _ hq]
  refine detect_in_window iv to horizon T hto hz n _ hw ?_
  -- the remaining arrivals are at most the scripted ones
  have : _ ≤ arr.length := stepN_arr_length_le iv to k (Keepalive.init iv arr sched)
  have := hw.lo
  omega

/-- F12's first scenario after the repair, executed: iv = 3 s, to = 2 s (an accepted pair), one data frame at 1.8 s, the
    peer never answers: pings at 6 s and 9 s, the timeout is reported at tick 10035 = 1843 + 4·2048 (9.80 s) ≤ 6 s + 2·2 s. -/
theorem C16_detect_former_counterexample :
    App.argsAccepted 3072 (some 2048) = true ∧
    (Keepalive.run 3072 2048 20480 100 [(1843, .data)] []).2 = some 10035 ∧ 10035 ≤ 6144 + 2 * 2048 := by
  decide

/-- the same on the full application model: the trace of `run_forever` -/
example :
    let c : App.Cfg := { has := fun cb => cb = .onError, plan := fun _ => [], iv := 3072, to := some 2048,
                         payload := [], reconnect := 0, ssl := false, horizon := 20480, fuel := 100 }
    let tr := (App.runForever c { dials := [.established [⟨1843, false, .message 1 [0x78] false⟩]] }).trace
    (tr.filterMap fun te => match te.2 with
      | .wrote 9 _ => some (te.1, "ping") | .cb .onError [.exn .timeout] => some (te.1, "timeout") | _ => none) =
      [(6144, "ping"), (9216, "ping"), (10035, "timeout")] := by
  decide +kernel

open WS.Lemmas.Keepalive in
/-- **C16_no_false_positive** — for every accepted pair (`to < iv`), EVERY arrival pattern (data frames, further pongs,
    unsolicited pongs at any time), every order at simultaneous wake-ups (schedule), every horizon and fuel: a peer that
    answers every ping within `to` (`Answering`: each ping whose answer window lies before the horizon is followed by a
    pong within `to`) is never reported. -/
theorem C16_no_false_positive (iv to horizon fuel : Nat) (arr : List (Nat × Keepalive.Kind)) (sched : List Bool)
    (hto : to < iv) (hr : Answering iv to horizon arr) :
    (Keepalive.run iv to horizon fuel arr sched).2 = none := by
  unfold Keepalive.run
  exact loop_no_report hto hr fuel _ (ainv_init hr.sorted sched)

open WS.Lemmas.Keepalive in
/-- non-vacuity: iv = 10, to = 5, horizon 40; data frames at 3 and 25, pongs one tick after the pings at 20 and 30 AND an
    unsolicited pong at 28: the hypothesis holds (and the run indeed reports nothing). -/
example : Answering 10 5 40 [(3, .data), (21, .pong), (25, .data), (28, .pong), (31, .pong)] ∧
    Keepalive.run 10 5 40 50 [(3, .data), (21, .pong), (25, .data), (28, .pong), (31, .pong)] [true, false] = ([20, 30, 40], none) := by
  refine ⟨⟨by decide, ?_⟩, by decide⟩
  intro k hk hlt
  obtain rfl | rfl : k = 2 ∨ k = 3 := by omega
  · exact ⟨21, by simp, by omega⟩
  · exact ⟨31, by simp, by omega⟩

/-- F12's second scenario after the repair, executed: iv = 2 s, to = 1 s; the peer answers the ping sent at 4 s one tick
    later and sends one more, unsolicited, pong at 5 s + 1 tick: nothing is reported up to the next ping (before: reported
    at that tick); when the peer then really stops answering (ping at 6 s), that is reported within two timeouts. -/
theorem C16_no_false_positive_former_counterexample :
    (Keepalive.run 2048 1024 6143 100 [(4097, .pong), (5121, .pong)] []).2 = none ∧
    (Keepalive.run 2048 1024 12287 100 [(4097, .pong), (5121, .pong)] []).2 = some 7169 ∧ 7169 ≤ 6144 + 2 * 1024 := by
  decide

end WS.Props.C16
