/-
  WS.Props.C05c — C05/C06, what switching UTF-8 validation off changes in the frame check: the judgement of a close
  REASON, nothing else.
-/
import WS.Lemmas.Frame
import WS.Props.C05
namespace WS.Props.C05c
open WS WS.Model WS.Lemmas.Frame

/-- frames other than close frames are judged identically with validation on and off. -/
theorem C05_skip_only_close (f : Frame) (h : f.opcode ≠ 8) : validate f true = validate f false := by
  rw [validate_eq f true, validate_eq f false, validate_isNone, validate_isNone,
    show (f.opcode == Gen.opcodeClose) = false from beq_false_of_ne h]
  rfl

/-- whatever validation on accepts, validation off accepts too. -/
theorem C05_skip_monotone (f : Frame) (h : validate f false = none) : validate f true = none := by
  have e := validate_isNone f false
  rw [← Option.isNone_iff_eq_none, validate_isNone]
  rw [h] at e
  simp only [Option.isNone_none, Bool.true_eq, Bool.and_eq_true, Bool.or_eq_true] at e ⊢
  exact ⟨e.1, e.2.1, e.2.2.1, e.2.2.2.imp_right (closeBodyOk_mono _)⟩

/-- **C05_skip_keeps_code_check** — with UTF-8 validation switched OFF a close frame is still accepted only if its body
    is empty, or at least two bytes (at most 125) whose status code may appear on the wire, sent unfragmented with the
    reserved bits clear: only the judgement of the reason is switched off. -/
theorem C05_skip_keeps_code_check (f : Frame) (h8 : f.opcode = 8) (hv : validate f true = none) :
    f.rsv1 = 0 ∧ f.rsv2 = 0 ∧ f.rsv3 = 0 ∧ f.fin ≠ 0 ∧ f.data.length ≤ 125 ∧
    (f.data.length = 0 ∨ (2 ≤ f.data.length ∧
      isValidCloseStatus (256 * (f.data.getD 0 0).toNat + (f.data.getD 1 0).toNat) = true)) := by
  have e := validate_isNone f true
  rw [hv, h8, closeBodyOk, Gen.opcodeClose, Gen.length7, Gen.closeBodyBadEq, Gen.closeBodyBadGe] at e
  simp only [Option.isNone_none, Bool.true_eq, Bool.and_eq_true, Bool.or_eq_true, Bool.not_eq_true', Bool.or_eq_false_iff,
    bne_eq_false_iff_eq, beq_self_eq_true, Bool.true_or, Bool.true_and, beq_iff_eq, beq_eq_false_iff_ne,
    decide_eq_false_iff_not, Bool.not_true, Bool.and_false, Bool.false_and, Bool.not_false, Bool.false_eq_true,
    false_or] at e
  -- as in `validate_isNone`: RSV bits, known opcode, control-frame rule, close body (empty, or length and status)
  obtain ⟨⟨⟨r1, r2⟩, r3⟩, _, ⟨hfin, hlen⟩, hempty | ⟨⟨hne1, _⟩, hstatus⟩⟩ := e
  · exact ⟨r1, r2, r3, hfin, by omega, .inl hempty⟩
  · exact ⟨r1, r2, r3, hfin, by omega, (Nat.eq_zero_or_pos _).imp_right fun _ => ⟨by omega, hstatus⟩⟩

/-- non-vacuity: with validation off, `03 E8 FF` (code 1000, reason not UTF-8) is accepted, `03 E7 ..` (999) is not. -/
example : validate { fin := 1, rsv1 := 0, rsv2 := 0, rsv3 := 0, opcode := 8, mask := 0, data := [0x03, 0xE8, 0xFF] } true = none ∧
    validate { fin := 1, rsv1 := 0, rsv2 := 0, rsv3 := 0, opcode := 8, mask := 0, data := [0x03, 0xE7, 0x41] } true = some .proto ∧
    validate { fin := 1, rsv1 := 0, rsv2 := 0, rsv3 := 0, opcode := 8, mask := 0, data := [0x03, 0xE8, 0xFF] } false = some .proto := by
  decide

end WS.Props.C05c
