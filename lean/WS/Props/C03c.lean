/-
  WS.Props.C03c — C03, "including frames that arrive in the same segment as the handshake response".
-/
import WS.Lemmas.Http
namespace WS.Props.C03c
open WS WS.PyH2 WS.H2 WS.Model.Http WS.Lemmas.Http

/-- **C03_head_boundary** — the reader of the handshake response takes from the transport EXACTLY the response head:
    whenever `read_headers` returns, the bytes it has consumed are a prefix `pre` of the byte stream that ends with the
    line feed of the blank line, it made exactly `pre.length` transport reads (one byte each — the generated fact
    `Gen.h2HeadRecvSize = 1`), and everything the server sent after the head — frames in the same segment included — is
    still in the transport, untouched and in order, for the frame parser (`C02_stream`, `C03_segmentation`) to read from
    its true start. For every byte stream, every placement of timeouts/resets after the head, either tail behaviour. -/
theorem C03_head_boundary (s : Sock) (h : Head) (s' : Sock) (n : Nat) (hok : readHeaders s = (.ok h, s', n)) :
    ∃ pre : Bytes, s.inp = pre.map .byte ++ s'.inp ∧ n = pre.length ∧ pre.getLast? = some 10 ∧ s'.tail = s.tail ∧
      Gen.h2HeadRecvSize = 1 := by
  obtain ⟨pre, ⟨p1, p2, p3⟩, p4⟩ := readLoop_spec (Nat.lt_succ_self _) hok
  exact ⟨pre, p1, p4.trans (Nat.zero_add _), p3, p2, by decide⟩

/-- non-vacuity: the head `H 101\r\n\r\n` immediately followed by a text frame `81 01 61` in the same segment. -/
example :
    let head : Bytes := [72, 32, 49, 48, 49, 13, 10, 13, 10]
    let frame : Bytes := [0x81, 0x01, 0x61]
    (readHeaders { inp := (head ++ frame).map .byte, tail := .timeout }).2.1.inp = frame.map .byte := by
  decide +kernel

end WS.Props.C03c
