/-
  WS.Props.C13b — keepalive without a ping timeout is transparent: the run with `ping_interval = iv` is, but for the ping
  thread's own events, the run with `ping_interval = 0` — and so `C13_trace` holds with keepalive on.
-/
import WS.Lemmas.AppKA
import WS.Props.C13
namespace WS.Props.C13b
open WS WS.Model.App WS.Lemmas.App WS.Lemmas.App.KA WS.Spec.AppTrace

/-- **C13_keepalive_transparent** — for EVERY configuration without a ping timeout and with `ping_interval ≥ 0` (callbacks set
    or not, plans that raise / close / interrupt, reconnect on or off, TLS-style or plain), every world of dial outcomes and
    server events, every schedule of the ping thread against the reading loop (`s0.sched`), every starting state: the run,
    with the ping thread's own events removed (thread start / exit, the PING frames), is EXACTLY the run with keepalive off —
    the same events at the same ticks (callbacks with their arguments, dials, sleeps, pongs, close frames, transports closed
    and dropped), the same outcome (return value or exception), the same final state but for the ping thread's fields. -/
theorem C13_keepalive_transparent (c : Cfg) (hto : c.to = none) (hiv : 0 ≤ c.iv) (s0 : St) :
    strip (runForever c s0).trace = (runForever (off c) (P s0)).trace ∧
    (runForeverO c s0).2 = (runForeverO (off c) (P s0)).2 ∧
    P (runForever c s0) = runForever (off c) (P s0) := by
  have h := P_runForeverO c hto hiv s0
  exact ⟨(congrArg (fun x => x.1.trace) h :), (congrArg Prod.snd h :), (congrArg Prod.fst h :)⟩

theorem cbOnly_strip (tr : Trace) : cbOnly (strip tr) = cbOnly tr := by
  rw [cbOnly, strip, List.filter_filter]
  exact List.filter_congr fun te _ => by cases te.2 <;> rfl

theorem netOnly_strip (tr : Trace) : netOnly (strip tr) = netOnly tr := by
  rw [netOnly, strip, List.filter_filter]
  exact List.filter_congr fun te _ => by cases te.2 <;> rfl

/-- what the keepalive versions of C13–C15 use of `C13_keepalive_transparent` -/
theorem ka_lift (c : Cfg) (hto : c.to = none) (hiv : 0 ≤ c.iv) (s0 : St) :
    (runForeverO c s0).2 = (runForeverO (off c) (P s0)).2 ∧
    netOnly (runForever c s0).trace = netOnly (runForever (off c) (P s0)).trace ∧
    cbOnly (runForever c s0).trace = cbOnly (runForever (off c) (P s0)).trace := by
  obtain ⟨htr, ho, _⟩ := C13_keepalive_transparent c hto hiv s0
  exact ⟨ho, by rw [← htr, netOnly_strip], by rw [← htr, cbOnly_strip]⟩

/-- **C13_trace_keepalive** — `C13_trace` with the ping thread running (any interval, no ping timeout), for every schedule
    of the ping thread: the callbacks observed are, in this order and at these ticks, exactly the Spec trace — on_open
    first, then for each event its callbacks once at its arrival time, each raising callback followed by on_error(its
    exception), nothing lost — followed only by the on_error / on_close calls that belong to the end of the run. -/
theorem C13_trace_keepalive (c : Cfg) (hq : Quiet c) (hto : c.to = none) (hiv : 0 ≤ c.iv)
    (hrc : c.reconnect = 0) (s0 : St) (legal : List TEv) (te : TEv)
    (hs : s0.sock = none)
    (hd : s0.dials = [.established (legal ++ [te])])
    (hleg : ∀ e ∈ legal, isLegal e.ev = true) (hterm : isTerm te.ev = true)
    (hfuel : need0 (selectTimeout c) (legal ++ [te]) + 1 ≤ c.fuel)
    (hz : endTime s0.now (legal ++ [te]) + secs Gen.closeTimeoutDefault ≤ c.horizon) :
    ∃ tail, cbOnly (runForever c s0).trace =
        cbOnly s0.trace ++ expectedConn c.has c.plan s0.calls s0.now .onOpen (legal ++ [te]) ++ tail ∧
      ∀ x ∈ tail, (∃ a, x.2 = .cb .onError a) ∨ (∃ a, x.2 = .cb .onClose a) := by
  rw [(ka_lift c hto hiv s0).2.2, ← cbOnly_strip s0.trace]
  exact C13.C13_trace (off c) hq (acc_off c hto) rfl hrc (P s0) legal te hs rfl rfl hd hleg hterm hfuel hz

/-- **C13_open_first_keepalive** — on_open (when set) is the first callback of the connection and fires at the tick the
    connection is established, with the ping thread running. -/
theorem C13_open_first_keepalive (c : Cfg) (hq : Quiet c) (hto : c.to = none) (hiv : 0 ≤ c.iv)
    (hrc : c.reconnect = 0) (s0 : St) (legal : List TEv) (te : TEv)
    (hs : s0.sock = none)
    (hd : s0.dials = [.established (legal ++ [te])])
    (hleg : ∀ e ∈ legal, isLegal e.ev = true) (hterm : isTerm te.ev = true)
    (hfuel : need0 (selectTimeout c) (legal ++ [te]) + 1 ≤ c.fuel)
    (hz : endTime s0.now (legal ++ [te]) + secs Gen.closeTimeoutDefault ≤ c.horizon)
    (hopen : c.has .onOpen = true) :
    ∃ rest, cbOnly (runForever c s0).trace = cbOnly s0.trace ++ (s0.now, .cb .onOpen []) :: rest := by
  rw [(ka_lift c hto hiv s0).2.2, ← cbOnly_strip s0.trace]
  exact C13.C13_open_first (off c) hq (acc_off c hto) rfl hrc (P s0) legal te hs rfl rfl hd hleg hterm hfuel hz hopen

/-- non-vacuity, executed: interval 1 s, no timeout, a text message at 2.5 s and end of stream at 4 s: the keepalive run has
    ping events; without them its trace is the trace of the run with keepalive off. -/
example :
    let c : Cfg := { has := fun _ => true, plan := fun _ => [], iv := 1024, to := none, payload := [],
                     reconnect := 0, ssl := false, horizon := 20000, fuel := 50 }
    let s0 : St := { dials := [.established [{ dt := 2560, burst := false, ev := .message 1 [0x68] false },
                                              { dt := 1536, burst := false, ev := .eof }]], sched := [true, false] }
    ((runForever c s0).trace.any fun te => isKA te.2) = true ∧
    strip (runForever c s0).trace = (runForever (off c) (P s0)).trace := by decide +kernel

end WS.Props.C13b
