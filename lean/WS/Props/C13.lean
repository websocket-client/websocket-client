/-
  WS.Props.C13 — property theorems for C13 (WebSocketApp delivers every event to its callback exactly
  once, in order, promptly; callback exceptions go to on_error and stop nothing).
  Model: WS.Model.App (run_forever + built-in dispatchers).  Spec: WS.Spec.AppTrace.expectedConn.
-/
import WS.Lemmas.AppRun
namespace WS.Props.C13
open WS WS.Model.App WS.Lemmas.App
open WS.Spec.AppTrace (cbOnly expectedConn expectedDeliveries reportTrace)

/-- generated facts the theorem rests on: `read()` passes the message's opcode to on_data (F4 repaired)
    and calls on_data before on_message. -/
theorem read_shape : Gen.appOnDataMsgOpcode = true ∧ Gen.appDataBeforeMessage = true := by decide

/-- **C13_trace** — for every legal traffic history `legal` (complete text/binary messages, fragmented
    or not, pings, pongs, with any gaps and bursts), every subset of callbacks set (`c.has`), every plan
    in which callbacks return or raise (`Quiet`), plain and TLS-style transport (`c.ssl`): the callbacks
    observed during the run are, in this order and at these ticks, exactly the Spec trace
    `expectedConn` -- on_open first, then for each event its callbacks once, at its arrival time, text
    as str / binary as bytes with the message's opcode, each raising callback followed by
    on_error(its exception), nothing lost after an exception -- followed only by the on_error / on_close
    calls that belong to the end of the run (C14). -/
theorem C13_trace (c : Cfg) (hq : Quiet c) (hacc : argsAccepted c.iv c.to = true) (hiv : c.iv = 0)
    (hrc : c.reconnect = 0) (s0 : St) (legal : List TEv) (te : TEv)
    (hs : s0.sock = none) (hp : s0.ping = none) (hl : s0.lastPing = 0)
    (hd : s0.dials = [.established (legal ++ [te])])
    (hleg : ∀ e ∈ legal, isLegal e.ev = true) (hterm : isTerm te.ev = true)
    (hfuel : need0 (selectTimeout c) (legal ++ [te]) + 1 ≤ c.fuel)
    (hz : endTime s0.now (legal ++ [te]) + secs Gen.closeTimeoutDefault ≤ c.horizon) :
    ∃ tail, cbOnly (runForever c s0).trace =
        cbOnly s0.trace ++ expectedConn c.has c.plan s0.calls s0.now .onOpen (legal ++ [te]) ++ tail ∧
      ∀ x ∈ tail, (∃ a, x.2 = .cb .onError a) ∨ (∃ a, x.2 = .cb .onClose a) := by
  obtain ⟨_, _, htr, hcb⟩ := run_trace c hq hacc hiv hrc s0 legal te hs hp hl hd hleg hterm hfuel (by omega) (fun _ => hz)
  rw [htr, cbOnly_append, hcb]
  exact ⟨_, rfl, endTrace_cb c _ _ _ _⟩

/-- **C13_open_first** — on_open (when set) is the first callback of the connection and fires at the
    tick the connection is established, before any delivery. -/
theorem C13_open_first (c : Cfg) (hq : Quiet c) (hacc : argsAccepted c.iv c.to = true) (hiv : c.iv = 0)
    (hrc : c.reconnect = 0) (s0 : St) (legal : List TEv) (te : TEv)
    (hs : s0.sock = none) (hp : s0.ping = none) (hl : s0.lastPing = 0)
    (hd : s0.dials = [.established (legal ++ [te])])
    (hleg : ∀ e ∈ legal, isLegal e.ev = true) (hterm : isTerm te.ev = true)
    (hfuel : need0 (selectTimeout c) (legal ++ [te]) + 1 ≤ c.fuel)
    (hz : endTime s0.now (legal ++ [te]) + secs Gen.closeTimeoutDefault ≤ c.horizon)
    (hopen : c.has .onOpen = true) :
    ∃ rest, cbOnly (runForever c s0).trace = cbOnly s0.trace ++ (s0.now, .cb .onOpen []) :: rest := by
  obtain ⟨tail, h, _⟩ := C13_trace c hq hacc hiv hrc s0 legal te hs hp hl hd hleg hterm hfuel hz
  obtain ⟨rest, hr⟩ := expectedConn_head c.has c.plan s0.calls s0.now .onOpen (legal ++ [te]) hopen
  exact ⟨rest ++ tail, by rw [h, hr]; simp⟩

/-- **C13_prompt** (dispatcher side) — whenever the next event has arrived, `select` (plain `Dispatcher`
    and `SSLDispatcher` with its `pending()` test alike) returns at once and reports the socket readable:
    the loop never sleeps on an event that is already there, whatever else is going on (any state, any
    configuration).  Together with the ticks in `C13_trace` (each callback fires at its event's arrival
    tick): delivery does not wait for further traffic. -/
theorem C13_prompt (c : Cfg) (s : St) (h : s.arrived = true) : select c s = (s, some true) :=
  select_arrived c s h

/-- non-vacuity: a concrete world (text, ping, fragmented binary, then end of stream), all callbacks set,
    on_message raising at its first call -- the hypotheses of `C13_trace` hold and the model's trace is the
    expected one. -/
example :
    let c : Cfg := { has := fun _ => true, plan := fun cb => if cb = .onMessage then [.raise] else [], iv := 0,
                     to := none, payload := [], reconnect := 0, ssl := true, horizon := 100000, fuel := 50 }
    let evs : List TEv := [⟨100, false, .message 1 [0x68] false⟩, ⟨0, true, .ping [0x70]⟩,
                           ⟨20000, false, .message 2 [1, 2] true⟩, ⟨5, false, .eof⟩]
    (cbOnly (runForever c { dials := [.established evs] }).trace).map (fun x => (x.1, match x.2 with | .cb n _ => n.name | _ => "")) =
      [(0, "on_open"), (100, "on_data"), (100, "on_message"), (100, "on_error"), (100, "on_ping"),
       (20100, "on_data"), (20100, "on_message"), (20105, "on_error"), (20105, "on_close")] := by
  decide +kernel

end WS.Props.C13
