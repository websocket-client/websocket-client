/-
  WS.Props.C17c — the transport glue (`_socket.recv` / `_socket.send`): whatever the transport object does, the
  library-level call returns, raises one of the two documented exceptions, or passes the transport's OWN exception through.
-/
import WS.Model.SocketGlue
import WS.Gen.Tables
namespace WS.Props.C17c
open WS WS.Model.Glue

theorem recv_of_ok {r : RawR} {bs : Bytes} (h : recvPost (recvHandler r) = .ok bs) : bs ≠ [] ∧ r = .data bs := by
  cases r with
  | data l =>
    cases l <;> cases h
    exact ⟨nofun, rfl⟩
  | sslErr b => cases b <;> cases h
  | _ => cases h

theorem recv_of_own {r r' : RawR} (h : recvPost (recvHandler r) = .own r') :
    r' = r ∧ (∀ bs, r' ≠ .data bs) ∧ r' ≠ .timeoutErr ∧ r' ≠ .sslErr true := by
  cases r with
  | data l => cases l <;> cases h
  | sslErr b =>
    cases b <;> cases h
    exact ⟨rfl, nofun, nofun, nofun⟩
  | timeoutErr => cases h
  | _ =>
    cases h
    exact ⟨rfl, nofun, nofun, nofun⟩

/-- a call that does not end in CLOSED ends as ONE read `r` does: the first, or — blocking, would block, then ready — the
    second. (When the wait expires the inner `_recv()` returns None, which the emptiness test turns into CLOSED.) -/
theorem recv_cases {nb : Bool} {r1 : RawR} {ready : Bool} {r2 : RawR} {o : Out Bytes} (h : recv nb r1 ready r2 = o)
    (hc : o ≠ .closed) :
    ∃ r, (r1 = r ∨ (r1 = .wantRead ∨ r1 = .again) ∧ nb = false ∧ ready = true ∧ r2 = r) ∧ recvPost (recvHandler r) = o := by
  subst h
  cases nb
  · cases r1 with
    | wantRead | again =>
      cases ready
      · exact absurd rfl hc
      · exact ⟨r2, .inr ⟨by decide, rfl, rfl, rfl⟩, rfl⟩
    | _ => exact ⟨_, .inl rfl, rfl⟩
  · exact ⟨r1, .inl rfl, rfl⟩

/-- **C17_glue_recv** — for every world of a `_socket.recv` call (blocking or not, every first outcome, ready or not, every
    second outcome): bytes are returned exactly when the transport returned a non-empty string; end of stream (`b""`) is
    CLOSED in EVERY mode — it is never handed up as an empty read, which is what would make the frame reader spin; every
    timeout spelling is TIMEOUT; anything else raised is an exception the transport itself raised in this call. -/
theorem C17_glue_recv (nb : Bool) (r1 : RawR) (ready : Bool) (r2 : RawR) :
    (∀ bs, recv nb r1 ready r2 = .ok bs → bs ≠ [] ∧ (r1 = .data bs ∨ ((r1 = .wantRead ∨ r1 = .again) ∧ nb = false ∧ ready = true ∧ r2 = .data bs))) ∧
    (r1 = .data [] → recv nb r1 ready r2 = .closed) ∧
    (r1 = .timeoutErr ∨ r1 = .sslErr true → recv nb r1 ready r2 = .timeout) ∧
    (∀ r, recv nb r1 ready r2 = .own r → (r = r1 ∨ r = r2) ∧ (∀ bs, r ≠ .data bs) ∧ r ≠ .timeoutErr ∧ r ≠ .sslErr true) := by
  refine ⟨fun bs h => ?_, ?_, ?_, fun r h => ?_⟩
  · obtain ⟨r, hr, h⟩ := recv_cases h nofun
    obtain ⟨hne, rfl⟩ := recv_of_ok h
    exact ⟨hne, hr⟩
  · rintro rfl
    cases nb <;> rfl
  · rintro (rfl | rfl) <;> cases nb <;> rfl
  · obtain ⟨r', hr, h⟩ := recv_cases h nofun
    obtain ⟨rfl, h'⟩ := recv_of_own h
    exact ⟨hr.imp .symm (·.2.2.2.symm), h'⟩

theorem sendHandler_ok {r : RawS} {v : Option Nat} (h : sendHandler r = .ok v) : ∃ n, r = .accepted n ∧ v = some n := by
  cases r with
  | accepted n =>
    cases h
    exact ⟨n, rfl, rfl⟩
  | noCode b => cases b <;> cases h
  | _ => cases h

theorem sendHandler_own {r r' : RawS} (h : sendHandler r = .own r') : r' = r ∧ ∀ n, r' ≠ .accepted n := by
  cases r with
  | accepted n => cases h
  | timeoutErr => cases h
  | noCode b =>
    cases b <;> cases h
    exact ⟨rfl, nofun⟩
  | _ =>
    cases h
    exact ⟨rfl, nofun⟩

/-- likewise for `_socket.send`, where an expired wait is not an error: the call returns None. -/
theorem send_cases {nb : Bool} {r1 : RawS} {ready : Bool} {r2 : RawS} {o : OutS} (h : send nb r1 ready r2 = o)
    (hc : o ≠ .closed) :
    (∃ r, (r1 = r ∨ (r1 = .wantWrite ∨ r1 = .again) ∧ nb = false ∧ ready = true ∧ r2 = r) ∧ sendHandler r = o) ∨
    (r1 = .wantWrite ∨ r1 = .again) ∧ nb = false ∧ ready = false ∧ o = .ok none := by
  subst h
  cases nb
  · cases r1 with
    | sslEof => exact absurd rfl hc
    | wantWrite | again =>
      cases ready
      · exact .inr ⟨by decide, rfl, rfl, rfl⟩
      · exact .inl ⟨r2, .inr ⟨by decide, rfl, rfl, rfl⟩, rfl⟩
    | _ => exact .inl ⟨_, .inl rfl, rfl⟩
  · exact .inl ⟨r1, .inl rfl, rfl⟩

/-- **C17_glue_send** — likewise for `_socket.send`: a count is returned exactly when the transport accepted that many
    bytes in this call (`none`: the wait for writability expired, nothing was written, the caller's loop tries again);
    otherwise TIMEOUT, CLOSED (TLS end of stream on the first write) or the transport's own exception. -/
theorem C17_glue_send (nb : Bool) (r1 : RawS) (ready : Bool) (r2 : RawS) :
    (∀ n, send nb r1 ready r2 = .ok (some n) → r1 = .accepted n ∨ ((r1 = .wantWrite ∨ r1 = .again) ∧ nb = false ∧ ready = true ∧ r2 = .accepted n)) ∧
    (send nb r1 ready r2 = .ok none → (r1 = .wantWrite ∨ r1 = .again) ∧ nb = false ∧ ready = false) ∧
    (∀ r, send nb r1 ready r2 = .own r → (r = r1 ∨ r = r2) ∧ ∀ n, r ≠ .accepted n) := by
  refine ⟨fun n h => ?_, fun h => ?_, fun r h => ?_⟩
  · rcases send_cases h nofun with ⟨r, hr, h⟩ | ⟨_, _, _, h⟩
    · obtain ⟨m, rfl, ⟨⟩⟩ := sendHandler_ok h
      exact hr
    · cases h
  · rcases send_cases h nofun with ⟨r, _, h⟩ | ⟨h1, h2, h3, _⟩
    · obtain ⟨m, _, ⟨⟩⟩ := sendHandler_ok h
    · exact ⟨h1, h2, h3⟩
  · rcases send_cases h nofun with ⟨r', hr, h⟩ | ⟨_, _, _, h⟩
    · obtain ⟨rfl, h'⟩ := sendHandler_own h
      exact ⟨hr.imp .symm (·.2.2.2.symm), h'⟩
    · cases h

/-- non-vacuity: a non-blocking socket at end of stream is CLOSED; a blocking one whose first read would block and whose
    `select` comes back ready returns the second read. -/
example : recv true (.data []) false .osErr = .closed ∧ recv false .wantRead true (.data [1]) = Out.ok [1] := by decide

/-- generated fact: the handlers of the inner `_recv()` come in this order — want-read (wait, read again) BEFORE the errno
    test of `socket.error`; `SSLWantReadError` IS an OSError, so the other order would re-raise it (`recvInner` reads the
    want-read case first). -/
theorem glue_recv_handler_order : Gen.glueRecvHandlers = ["SSLWantReadError", "error"] := rfl

end WS.Props.C17c
