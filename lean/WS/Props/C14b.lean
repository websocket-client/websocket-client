/-
  WS.Props.C14b — close() inside on_open (the scenario of finding F13), for every world and every setting, after the repair.
-/
import WS.Props.C14
namespace WS.Props.C14b
open WS WS.Model.App WS.Lemmas.App

/-- **C14_close_in_open_clean** — the application calls close() in on_open (its first invocation on this connection):
    whatever the server has sent or will send (`evs`), whatever dial outcomes follow (`ds`), keepalive and reconnect on or
    off, plain or TLS-style, any tie order: either the model's horizon cuts the run inside the closing handshake, or
    run_forever RETURNS FALSE and the callbacks of the run are exactly on_open and then on_close — no on_error, no second
    dial. (Before the repair: on_error(AttributeError), True.) -/
theorem C14_close_in_open_clean (c : Cfg) (hco : CloseOk c) (hacc : argsAccepted c.iv c.to = true)
    (ho : c.has .onOpen = true) (s0 : St) (hs : s0.sock = none)
    (hcl : c.act .onOpen (s0.calls .onOpen) = .close)
    (evs : List TEv) (ds : List Dial) (hd : s0.dials = .established evs :: ds) (hf : 0 < c.fuel) :
    (runForeverO c s0).2 = .cut ∨
    ((runForeverO c s0).2 = .returned false ∧
      ∃ a, cbs (runForever c s0) = cbs s0 ++ [(.onOpen, [])] ++ onCloseEv c a) := by
  rw [runForever, runForeverO_eq c s0 hacc hs, runBody, firstStage_eq, setSock,
    show release (prologue s0) false = prologue s0 from rfl, connect_established (prologue s0) evs ds hd]
  simp only [afterConnect]
  -- the dial has succeeded; the ping thread (if any) is started; on_open calls close()
  generalize hs2 : (if c.iv ≠ 0 then startPing c _ else _ : St) = s2
  obtain ⟨f2h, f2e, f2c, f2calls⟩ :
      s2.hasDoneTeardown = false ∧ s2.hasErrored = false ∧ cbs s2 = cbs s0 ∧ s2.calls = s0.calls := by
    rw [← hs2]
    split <;> simp [startPing, prologue, St.emit, cbs, cbsOf]
  rw [← f2calls] at hcl
  rw [show openCb c false = .onOpen from by simp [openCb], callback_eq, ho, hcl]
  simp only [Bool.not_true, Bool.false_eq_true, reduceCtorEq, ↓reduceIte]
  rw [rawCall_close c s2 .onOpen [] hcl]
  -- close(): keep_running off, the socket released (or the horizon cuts the closing handshake)
  have hfr := appClose_frame c (entered s2 .onOpen [])
  have hsk := appClose_sock c (entered s2 .onOpen [])
  generalize appClose c (entered s2 .onOpen []) = x at hfr hsk ⊢
  obtain ⟨s3, ok⟩ := x
  cases ok with
  | false => exact .inl rfl
  | true =>
    -- `self.sock.sock` on None: an AttributeError, met while the application is closing → teardown
    have h3s : s3.sock = none := hsk rfl
    simp only [↓reduceIte, afterOpen, h3s]
    rw [handleDisconnect_closing c s3 .attrError false hfr.kr (by decide)]
    obtain ⟨s4, h | ⟨h, q, hhe, a, hca⟩⟩ := teardown_P c hco s3 none (hfr.hdt.trans f2h) <;> rw [h]
    · exact .inl rfl
    · -- the reconnect loop (if any) sees keep_running False; `finally: teardown()` is a no-op
      obtain ⟨n, hn⟩ := Nat.exists_eq_add_of_le' hf
      simp only [rlNext, hn, reconnectLoop_Q c n s4 q.kr, ite_self]
      rw [outcome_done c s4 q.hdt]
      refine .inr ⟨by rw [hhe, hfr.he]; exact congrArg _ f2e, a, ?_⟩
      rw [cbs_emit_other _ _ (by intros; simp), hca, hfr.cb, ← f2c]
      exact congrArg (· ++ onCloseEv c a) (cbs_emit_cb _ .onOpen [])

/-- non-vacuity: the hypotheses are met by F13's configuration with keepalive, reconnect and TLS-style all ON. -/
example :
    let c : Cfg := { has := fun _ => true, plan := fun cb => if cb = .onOpen then [.close] else [], iv := 300,
                     to := some 200, payload := [1], reconnect := 500, ssl := true, horizon := 100000, fuel := 50 }
    CloseOk c ∧ argsAccepted c.iv c.to = true ∧ c.act .onOpen (({} : St).calls .onOpen) = .close ∧
    (runForeverO c { dials := [.established [⟨100, false, .message 1 [0x68] false⟩], .refused] }).2 = .returned false := by
  refine ⟨fun k => Or.inl ?_, by decide, by decide, by decide⟩
  simp [Cfg.act]

end WS.Props.C14b
