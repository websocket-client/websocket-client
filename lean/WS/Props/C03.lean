/-
  WS.Props.C03 — delivery is independent of transport segmentation and survives receive timeouts.
-/
import WS.Props.C02
import WS.Lemmas.Resume
namespace WS.Props.C03
open WS WS.Model WS.Spec WS.Lemmas.RecvStrict WS.Lemmas.Parser WS.Lemmas.Stream WS.Lemmas.Timeouts WS.Lemmas.Staged WS.Lemmas.Resume

/-- a read on a released connection (`self.sock is None`) raises CLOSED and touches nothing. -/
theorem sockRecv_released (c : Conn) (n : Nat) (h : c.hasSock = false) : c.sockRecv n = (.error .closed, c) := by
  simp [Conn.sockRecv, h]

/-- **C03_recv_strict** — `recv_strict(n)` over ANY chunking: when at least `n` bytes are pending it returns
    exactly the next `n` pending bytes and removes exactly those — no byte lost, duplicated or reordered,
    whatever the chunk boundaries (down to single bytes). -/
theorem C03_recv_strict (c : Conn) (n : Nat) (hl : Live c) (hch : Chunks c.sock.inp) (hav : n ≤ (pending c).length) :
    ∃ c', c.recvStrict n = (.ok ((pending c).take n), c') ∧ pending c' = (pending c).drop n := by
  obtain ⟨hp, ht⟩ := (chunks_iff _).1 hch
  -- a script of chunks only cannot interrupt a read that has its bytes
  rcases recvStrict_plain c n hl hp with ⟨v, c', h, hv, hp', _⟩ | ⟨_, _, _, _, _, _, hshort⟩ | ⟨_, _, _, hshort⟩
  · rw [← hp', List.take_left' hv, List.drop_left' hv]
    exact ⟨c', h, rfl⟩
  · exact absurd (hshort ht) (by omega)
  · exact absurd hshort (by omega)

/-- **C03_segmentation** — what successive `recv_frame` calls report is a function of the bytes the server
    sent, not of how the transport delivers them: two connections (same validation setting) whose pending
    bytes are EQUAL — however differently they are split between the parser's buffer and any number of
    transport chunks — report identical outcomes for every complete frame in the stream, and are left with
    identical pending bytes. -/
theorem C03_segmentation (ws : List WireFrame) (c₁ c₂ : Conn) (tail : Bytes)
    (hl₁ : Live c₁) (hch₁ : Chunks c₁.sock.inp) (hclr₁ : Cleared c₁)
    (hl₂ : Live c₂) (hch₂ : Chunks c₂.sock.inp) (hclr₂ : Cleared c₂)
    (hbytes : pending c₁ = pending c₂) (hskip : c₁.skipUtf8 = c₂.skipUtf8)
    (hd : DecodesTo (pending c₁) ws tail) :
    (recvFrames ws.length c₁).1 = (recvFrames ws.length c₂).1 ∧
    pending (recvFrames ws.length c₁).2 = pending (recvFrames ws.length c₂).2 := by
  obtain ⟨a, ha, pa, _, _⟩ := C02.C02_stream ws c₁ tail hl₁ hch₁ hclr₁ hd
  obtain ⟨b, hb, pb, _, _⟩ := C02.C02_stream ws c₂ tail hl₂ hch₂ hclr₂ (hbytes ▸ hd)
  rw [ha, hb, hskip]
  exact ⟨rfl, pa.trans pb.symm⟩

/-- **C03_timeout_recv_strict** — over ANY schedule of byte chunks and receive timeouts, a `recv_strict(n)` call
    that raises TIMEOUT has consumed exactly one timeout event and left every pending byte (buffered or still in
    the transport) and the parser's stage fields exactly as they were — so the retried call resumes without losing,
    duplicating or reordering a byte; a call that completes saw no timeout and kept all pending bytes in order. -/
theorem C03_timeout_recv_strict (c : Conn) (n : Nat) (hl : Live c) (hp : Plain c.sock.inp) :
    StrictOut c n (Conn.recvStrictLoop (c.sock.size + 1) c n) :=
  (recvStrictLoop_plain _ c n hl hp (by have := bytesOf_add_two_le_size c.sock; omega)).1

/-- **C03_timeouts** — a receive timeout at ANY byte position (inside the header, the extended length, the mask
    key or the payload), any number of times, over any chunking: after `k` calls that each raised TIMEOUT the
    connection is still usable, the parser state is consistent, and the byte stream from the start of the frame in
    progress is exactly what it was — nothing lost, duplicated or reordered. -/
theorem C03_timeouts (c ck : Conn) (k : Nat) (hl : Live c) (hp : Plain c.sock.inp) (hws : WellStaged c)
    (ht : TimedOut c k ck) :
    vpending ck = vpending c ∧ WellStaged ck ∧ Live ck ∧ Plain ck.sock.inp := by
  induction ht with
  | zero c => exact ⟨rfl, hws, hl, hp⟩
  | succ h _ ih =>
    obtain ⟨a, b, d, e⟩ := recvFrame_timeout _ hl hp hws _ h
    obtain ⟨a', r⟩ := ih d e b
    exact ⟨a'.trans a, r⟩

/-- **C03_resume** — … and when the bytes have finally arrived, the retried call returns exactly the frame the
    RFC decoder reads from the ORIGINAL stream (what the one-chunk, no-timeout run returns by `C02_decode`) and
    leaves exactly the bytes that follow it. Together with `C03_segmentation`: observations are a function of
    the bytes sent, whatever the segmentation and wherever the timeouts fall. -/
theorem C03_resume (c ck : Conn) (k : Nat) (hl : Live c) (hp : Plain c.sock.inp) (hclr : Cleared c)
    (ht : TimedOut c k ck) (hch : Chunks ck.sock.inp)
    (w : WireFrame) (rest : Bytes) (hdec : decode (pending c) = .frame w rest) :
    ∃ c', ck.recvFrame = (outcome ck.skipUtf8 w, c') ∧ pending c' = rest ∧ Cleared c' := by
  obtain ⟨hv, hwsk, hlk, _⟩ := C03_timeouts c ck k hl hp (wellStaged_cleared hclr) ht
  rw [← vpending_cleared hclr, ← hv] at hdec
  obtain ⟨c', e, p, clr, _⟩ := WS.Lemmas.Total.recvFrame_decodes_staged ck hlk hch hwsk w rest hdec
  exact ⟨c', e, p, clr⟩

end WS.Props.C03
