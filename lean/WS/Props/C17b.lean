/-
  WS.Props.C17b — `WebSocket.recv()`, the str-returning receive call, raises documented exceptions only.
-/
import WS.Props.C17
namespace WS.Props.C17b
open WS WS.Model WS.Lemmas.RecvStrict WS.Lemmas.Parser WS.Lemmas.Total WS.Lemmas.Sizes WS.Lemmas.LoopTotal

/-- **C17_recv_no_internal** — `recv()` in EVERY configuration (per-fragment delivery on or off, UTF-8 validation on or
    off): whatever bytes the server sends, in any chunking, followed by end of stream or silence, the call returns a
    value or raises PROTO, PAYLOAD, CLOSED, TIMEOUT or the transport's own error — in particular a text payload that
    cannot be decoded (a fragment that ends inside a code point when fragments are delivered one by one; an ill-formed
    message when validation is off) raises PAYLOAD, never UnicodeDecodeError. -/
theorem C17_recv_no_internal (c : Conn) (hr : RxReady c) (e : Exn) (he : c.recv.1 = .error e) :
    e = .proto ∨ e = .payload ∨ e = .closed ∨ e = .timeout ∨ e = .transport := by
  have hb := WS.Props.C17.C17_message_no_internal c false hr
  unfold Conn.recv Conn.recvData at he
  generalize c.recvDataFrame false = x at he hb
  obtain ⟨e' | ⟨op, f⟩, c'⟩ := x
  · cases he
    exact hb e rfl
  · dsimp only at he
    split at he
    · split at he
      · cases he
      · cases he
        -- `Gen.recvDecodeGuard`, generated from the source, is `true`: `recv()` catches the UnicodeDecodeError
        exact .inr (.inl rfl)
    · split at he <;> cases he

/-- non-vacuity, executed: per-fragment delivery, the text fragment E3 81 (the first two bytes of "あ"): PAYLOAD. -/
example :
    let c : Conn := { fireCont := true, sock := { inp := [.chunk [0x01, 0x02, 0xE3, 0x81]] } }
    (match c.recv.1 with | .error .payload => true | _ => false) = true := by decide +kernel

/-- non-vacuity, executed: validation off, the ill-formed text message FF: PAYLOAD from `recv()`, while `recv_data()` passes it
    through. -/
example :
    let c : Conn := { skipUtf8 := true, sock := { inp := [.chunk [0x81, 0x01, 0xFF]] } }
    (match c.recv.1 with | .error .payload => true | _ => false) = true ∧
    (match (c.recvData false).1 with | .ok (op, d) => op == 1 && d == [0xFF] | _ => false) = true := by decide +kernel

end WS.Props.C17b
