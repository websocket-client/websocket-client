/-
  WS.Props.C03e — nothing is ever parked where `select` cannot see it: a receive call that returns has taken from the
  transport exactly the bytes it consumed, at the frame level and at the message level.
-/
import WS.Lemmas.Exact
import WS.Lemmas.Walk
import WS.Lemmas.Loop
namespace WS.Props.C03e
open WS WS.Model WS.Lemmas.Exact WS.Lemmas.Loop

/-- writes and the reassembly bookkeeping leave the buffer alone: the whole `recv_data_frame` loop is exact. -/
theorem exact_loop : WS.Lemmas.Walk.LoopClosed Exact where
  toFrameClosed := exact_frame
  cont _ _ _ hb _ := hb
  send c f hb _ := by
    obtain ⟨_, _, _, _, _, h⟩ := WS.Lemmas.ShortWrites.sendFrame_sent c f
    rw [h]
    exact hb
  reply _ _ hb _ := hb

/-- **C03_nothing_parked** — a receive call that returns a value has taken from the transport EXACTLY the bytes it
    consumed, for every chunking: `recv_frame()` (a frame), and `recv_data_frame()` / `recv_data()` / `recv()` (a message,
    a reported control frame, or — per-fragment delivery — a fragment, with every ping answered on the way): the
    library's own buffer, which `select` cannot see, is empty again. So what a select-driven caller observes does not
    depend on the segmentation either. -/
theorem C03_nothing_parked (c : Conn) (hb : c.buf = []) :
    (∀ f c', c.recvFrame = (.ok f, c') → c'.buf = []) ∧
    (∀ cf r c', c.recvDataFrame cf = (.ok r, c') → c'.buf = []) ∧
    (∀ cf r c', c.recvData cf = (.ok r, c') → c'.buf = []) := by
  have hloop : ∀ cf r c', c.recvDataFrame cf = (.ok r, c') → c'.buf = [] := by
    intro cf r c' h
    have := exact_loop.recvDataFrameLoop (c.sock.size + c.buf.length + 2) cf c hb
    rw [show Conn.recvDataFrameLoop _ c cf = _ from h] at this
    exact this rfl
  refine ⟨recvFrame_exact c hb, hloop, fun cf r c' h => ?_⟩
  rw [Conn.recvData] at h
  split at h
  · cases h
  · next hx =>
    cases h
    exact hloop cf _ _ hx

/-- non-vacuity, executed: two frames in one chunk; after the first message the second frame is still in the TRANSPORT. -/
example :
    let c : Conn := { sock := { inp := [.chunk [0x81, 0x01, 0x61, 0x82, 0x01, 0x62]], tail := .timeout } }
    (c.recvData false).2.buf = [] ∧ (c.recvData false).2.sock.inp = [.chunk [0x82, 0x01, 0x62]] := by decide +kernel

end WS.Props.C03e
