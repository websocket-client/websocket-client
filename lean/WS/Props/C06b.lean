/-
  WS.Props.C06b — C06 at message level: validity is judged on the reassembled message.
-/
import WS.Props.C04
import WS.Props.C06
namespace WS.Props.C06b
open WS WS.Model WS.Spec WS.Lemmas.RecvStrict WS.Lemmas.Parser WS.Lemmas.Stream WS.Lemmas.ShortWrites WS.Lemmas.Loop

/-- **C06_message** — for EVERY fragmentation of a text message (any cuts, including inside a code point, any
    pings/pongs in between, any chunking of the bytes), the receive call delivers the message exactly when the
    REASSEMBLED payload is well-formed UTF-8 (Unicode Table 3-7), and raises the payload exception otherwise;
    nothing else about the fragmentation matters. With validation switched off the bytes pass through unchanged. -/
theorem C06_message (fs : List Frame) (hm : MsgFrames none fs) (htext : firstDataOp fs = 1)
    (c : Conn) (ws : List WireFrame) (tail : Bytes)
    (hr : Ready c) (hidle : LoopInv c none []) (hmap : ws.map frameOfWire = fs)
    (hval : ∀ w ∈ ws, validate (frameOfWire w) c.skipUtf8 = none)
    (hd : DecodesTo (pending c) ws tail) :
    ∃ c', c.recvDataFrame false =
        (if c.skipUtf8 || wellFormed (msgPayload fs) then .ok (1, { lastFrame fs with data := msgPayload fs })
         else .error .payload, c') ∧ pending c' = tail := by
  obtain ⟨c', e, _, p, _⟩ := WS.Props.C04.C04_reassembly fs hm c ws tail hr hidle hmap hval hd
  refine ⟨c', ?_, p⟩
  rw [e, htext]
  unfold deliver
  rw [WS.Props.C06.C06_validate]
  cases c.skipUtf8 <;> cases wellFormed (msgPayload fs) <;> rfl   -- validation on or off, payload well-formed or not

end WS.Props.C06b
