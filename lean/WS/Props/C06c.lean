/-
  WS.Props.C06c — C06 in the words of the property: no overlong forms, no surrogates, nothing above U+10FFFF,
  no sequence cut short.
-/
import WS.Lemmas.Scalars
import WS.Props.C06
namespace WS.Props.C06c
open WS WS.Spec WS.Model WS.Lemmas.Scalars

/-- **C06_validate_scalars** — the code's validator accepts a byte string exactly when it is the
    concatenation of the (shortest-form) UTF-8 encodings of Unicode scalar values: code points ≤ U+10FFFF that
    are not surrogates. Every overlong form, every surrogate, everything above U+10FFFF and every sequence cut
    short at the end is therefore rejected, and every encodable Unicode text (C01: text is sent as its UTF-8
    bytes) is accepted. -/
theorem C06_validate_scalars (bs : Bytes) :
    validateUtf8 bs = true ↔ ∃ cps : List Nat, (∀ c ∈ cps, IsScalar c) ∧ bs = cps.flatMap encodeScalar := by
  rw [WS.Props.C06.C06_validate]
  exact wellFormed_iff_scalars bs

/-- concrete members: "é€😀" is accepted; the overlong C0 80, the surrogate ED A0 80, F4 90 80 80 (> U+10FFFF)
    and the truncated E2 82 are not encodings of scalar sequences. -/
example : validateUtf8 ([0xE9, 0x20AC, 0x1F600].flatMap encodeScalar) = true := by decide +kernel

end WS.Props.C06c
