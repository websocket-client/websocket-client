/-
  WS.Props.C03b — C03, the message level: results AND automatic replies are invariant under segmentation.
-/
import WS.Lemmas.Prefix
namespace WS.Props.C03b
open WS WS.Model WS.Spec WS.Lemmas.RecvStrict WS.Lemmas.Parser WS.Lemmas.Stream WS.Lemmas.ShortWrites WS.Lemmas.Loop

/-- **C03_message_segmentation** — what a `recv_data_frame()` call returns AND what it writes on its own
    (the pongs) is a function of the bytes the server sent: two connections whose pending bytes are EQUAL —
    however differently split between the parser's buffer and any number of transport chunks, down to single
    bytes — with the same reassembly state, the same validation setting and the same mask-key source return
    the identical value (message or payload error), append the identical reply bytes to the wire, and are left
    with identical pending bytes and an idle reassembly state. Any message: any fragmentation, any number of
    interleaved pings and pongs. -/
theorem C03_message_segmentation (fs : List Frame) (st : Option Nat) (hm : MsgFrames st fs) (acc : Bytes)
    (c₁ c₂ : Conn) (ws : List WireFrame) (tail : Bytes)
    (hr₁ : Ready c₁) (hr₂ : Ready c₂) (hi₁ : LoopInv c₁ st acc) (hi₂ : LoopInv c₂ st acc)
    (hbytes : pending c₁ = pending c₂) (hskip : c₁.skipUtf8 = c₂.skipUtf8) (hkeys : c₁.keys = c₂.keys)
    (hmap : ws.map frameOfWire = fs) (hval : ∀ w ∈ ws, validate (frameOfWire w) c₁.skipUtf8 = none)
    (hd : DecodesTo (pending c₁) ws tail) :
    ∃ replies c₁' c₂',
      c₁.recvDataFrame false = ((c₂.recvDataFrame false).1, c₁') ∧ (c₂.recvDataFrame false).2 = c₂' ∧
      c₁'.sock.wire = c₁.sock.wire ++ replies ∧ c₂'.sock.wire = c₂.sock.wire ++ replies ∧
      pending c₁' = tail ∧ pending c₂' = tail ∧ LoopInv c₁' none [] ∧ LoopInv c₂' none [] := by
  obtain ⟨a, ea, _, pa, ia, wa, _⟩ := recvDataFrame_message hm hr₁ hi₁ hmap hval hd
  obtain ⟨b, eb, _, pb, ib, wb, _⟩ := recvDataFrame_message hm hr₂ hi₂ hmap (hskip ▸ hval) (hbytes ▸ hd)
  exact ⟨pongsWire c₁.keys fs, a, b, by rw [ea, eb, hskip], by rw [eb], wa, hkeys ▸ wb, pa, pb, ia, ib⟩

end WS.Props.C03b
