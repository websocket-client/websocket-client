/-
  WS.Props.C08b — C08, "close() itself returns within its timeout whether or not the server answers":
  the silent peer (exactly the timeout) and the peer whose answer is already there (no time at all).
-/
import WS.Lemmas.CloseTime
import WS.Lemmas.CloseAnswered
import WS.Props.C08
namespace WS.Props.C08b
open WS WS.Model WS.Spec WS.Lemmas.Frame WS.Lemmas.RecvStrict WS.Lemmas.Parser WS.Lemmas.Stream WS.Lemmas.ShortWrites WS.Lemmas.Loop WS.Lemmas.CloseTime WS.Lemmas.CloseAnswered

/-- `close()` on a writable connection: the close frame goes out, the wait runs from `c1` to `c3`; if `c3` still has the
    socket, the release follows and keeps clock, wire and unread bytes. (`c1`, `c3` are variables: unifying against the whole
    wait loop is slow to check.) -/
theorem close_eq (c : Conn) (s : Int) (r : Bytes) (t : Nat) (hs : 0 ≤ s ∧ s < 65536) (hc : c.connected = true)
    (hw : Writable c) (hr : r.length + 2 < 2 ^ 63) :
    ∃ w sk c1, format (createFrame (beN 2 s.toNat ++ r) Gen.opcodeClose) (c.keys.headD [0, 0, 0, 0]) = .ok w ∧
      Wrote c.sock w sk ∧
      c1 = { c with connected := false, ownCloses := c.ownCloses + 1, keys := c.keys.tail, keyDraws := c.keyDraws + 1,
                    sock := { sk with timeoutMs := some t } } ∧
      ∀ c3, Conn.closeWait (c1.sock.size + c1.buf.length + 2) c1 c1.sock.clock (some t) = c3 → c3.hasSock = true →
        ∃ c', c.close s r (some t) = (none, c') ∧ c'.sock.clock = c3.sock.clock ∧ c'.sock.wire = c3.sock.wire ∧
          c'.hasSock = false ∧ c'.connected = false ∧ c'.sock.closed = true ∧ pending c' = pending c3 := by
  obtain ⟨w, sk, hfmt, hwr, e1⟩ := send_ok { c with connected := false, ownCloses := c.ownCloses + 1 }
    (beN 2 s.toNat ++ r) Gen.opcodeClose hw (by decide) (by simp [beN_length]; omega)
  refine ⟨w, sk, _, hfmt, hwr, rfl, ?_⟩
  rintro c3 rfl h3
  rw [Conn.close, if_neg (by simp [hc]), if_neg (mt (WS.Props.C08.badStatus_iff s).1 (by omega))]
  simp only [e1]
  -- `hw.1` also rewrites inside the wait, in `h3` as in the goal; then the wait's result is a variable again
  simp only [hw.1, Bool.not_true, Bool.false_eq_true, if_false] at h3 ⊢
  generalize Conn.closeWait _ _ _ _ = c3 at h3 ⊢
  refine ⟨_, rfl, ?_⟩
  simp [Conn.shutdown, h3, Sock.shutdown, Sock.close, Sock.wire, pending]

/-- **C08_close_silent** — against a peer that never answers (nothing buffered, nothing in flight, every transport
    read times out), `close(status, reason, timeout=t)` on a connected object — for EVERY in-range status, every
    reason, every `t` (0 included), every short-write pattern of the transport —
    * writes exactly ONE frame, the close frame carrying `be16(status) ++ reason` (formatted with the next key),
    * returns normally after EXACTLY `t` milliseconds of (virtual) time: one timed-out read, never a second one,
    * and leaves the object released: `sock is None`, `connected = False`, transport closed. -/
theorem C08_close_silent (c : Conn) (s : Int) (r : Bytes) (t : Nat)
    (hs : 0 ≤ s ∧ s < 65536) (hc : c.connected = true) (hw : Writable c) (hsil : Silent c) (hr : r.length + 2 < 2 ^ 63) :
    ∃ w, format (createFrame (beN 2 s.toNat ++ r) Gen.opcodeClose) (c.keys.headD [0, 0, 0, 0]) = .ok w ∧
      (c.close s r (some t)).1 = none ∧ (c.close s r (some t)).2.sock.clock = c.sock.clock + t ∧
      (c.close s r (some t)).2.sock.wire = c.sock.wire ++ w ∧ (c.close s r (some t)).2.hasSock = false ∧
      (c.close s r (some t)).2.connected = false ∧ (c.close s r (some t)).2.sock.closed = true := by
  obtain ⟨w, _, c1, hfmt, ⟨_, _, _, _, rfl, hwire⟩, hc1, e⟩ := close_eq c s r t hs hc hw hr
  have hsil1 : Silent c1 := by
    rw [hc1]
    exact ⟨hw.1, hw.2.1, hsil.buf, hsil.inp, hsil.tail, hsil.hdr⟩
  obtain ⟨c3, hc3, k1, k2, k3⟩ := closeWait_silent c1 t _ hsil1 (hc1 ▸ rfl) (Nat.succ_pos _)
  obtain ⟨c', e', f1, f2, f3, f4, f5, _⟩ := e c3 hc3 k3
  rw [e']
  subst hc1
  exact ⟨w, hfmt, rfl, f1.trans k1, f2.trans (k2.trans hwire), f3, f4, f5⟩

/-- **C08_close_answered** — … and against a peer whose answer is already on its way (the transport holds any number of
    legal non-close frames followed by the peer's close frame, in any chunking, with nothing to wait for): `close()`
    writes its one close frame, reads exactly up to and including the peer's close frame (`tail`, whatever follows, is
    never read), takes NO time, and leaves the object released — for every timeout `t > 0`. -/
theorem C08_close_answered (c : Conn) (s : Int) (r : Bytes) (t : Nat) (fs : List WireFrame) (wc : WireFrame) (tail : Bytes)
    (hs : 0 ≤ s ∧ s < 65536) (hc : c.connected = true) (hrd : Ready c) (hr : r.length + 2 < 2 ^ 63) (ht : 0 < t)
    (hd : DecodesTo (pending c) (fs ++ [wc]) tail)
    (hval : ∀ w ∈ fs ++ [wc], validate (frameOfWire w) c.skipUtf8 = none)
    (hnc : ∀ w ∈ fs, (frameOfWire w).opcode ≠ Gen.opcodeClose) (hclose : (frameOfWire wc).opcode = Gen.opcodeClose) :
    ∃ w, format (createFrame (beN 2 s.toNat ++ r) Gen.opcodeClose) (c.keys.headD [0, 0, 0, 0]) = .ok w ∧
      (c.close s r (some t)).1 = none ∧ (c.close s r (some t)).2.sock.clock = c.sock.clock ∧
      (c.close s r (some t)).2.sock.wire = c.sock.wire ++ w ∧ (c.close s r (some t)).2.hasSock = false ∧
      (c.close s r (some t)).2.connected = false ∧ (c.close s r (some t)).2.sock.closed = true ∧
      pending (c.close s r (some t)).2 = tail := by
  obtain ⟨w, _, c1, hfmt, ⟨_, _, _, _, rfl, hwire⟩, hc1, e⟩ := close_eq c s r t hs hc hrd.writable hr
  have h1 : Fed c1 (fs.map frameOfWire ++ [frameOfWire wc]) tail := by
    rw [hc1]
    exact ⟨⟨hrd.live, hrd.chunks, hrd.cleared, hrd.writable⟩, fs ++ [wc], List.map_append, hd, hval⟩
  obtain ⟨k, hk⟩ := h1.fuel
  obtain ⟨c3, hc3, h3, k3, w3⟩ := closeWait_answered _ (c1.sock.size + c1.buf.length + 2) h1
    (List.forall_mem_map.2 hnc) hclose ht (by omega)
  obtain ⟨c', e', f1, f2, f3, f4, f5, f6⟩ := e c3 hc3 h3.ready.live.1
  rw [e']
  subst hc1
  exact ⟨w, hfmt, rfl, f1.trans k3, f2.trans (w3.trans hwire), f3, f4, f5, f6.trans h3.pending⟩

/-- non-vacuity and a concrete instance: `close(1000, "", 3 s)` on a fresh connection whose peer is silent. -/
example : (({ sock := { tail := .timeout } } : Conn).close 1000 [] (some 3000)).2.sock.clock = 3000 := by decide

/-- the same call when the peer's (empty) close frame is already there: no time passes, the frame is consumed. -/
example : (({ sock := { inp := [.chunk [0x88, 0x00]], tail := .timeout } } : Conn).close 1000 [] (some 3000)).2.sock.clock = 0 ∧
    pending (({ sock := { inp := [.chunk [0x88, 0x00]], tail := .timeout } } : Conn).close 1000 [] (some 3000)).2 = [] := by decide

end WS.Props.C08b
