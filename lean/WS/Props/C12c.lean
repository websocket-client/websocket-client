/-
  WS.Props.C12c — threads that each send a SEQUENCE of frames (data, pings, the pongs a receiving thread writes, close):
  every schedule yields whole frames in a serial order that keeps each thread's own order.
-/
import WS.Lemmas.ThreadsProg
import WS.Props.C12
namespace WS.Props.C12c
open WS WS.Model.ThreadsProg WS.Lemmas.ThreadsProg

/-- **C12_programs** — any number of threads, each with any program (list) of frames, any short-write pattern, EVERY
    schedule, at the granularity of every yield point: whenever the lock is free the wire is exactly the concatenation of
    the frames completed so far, where the k-th completed frame is the next unsent frame of the thread `order[k]`
    (`played`): whole frames, in a serial order that preserves every thread's program order; while a thread holds the lock
    the wire is that plus a prefix of the frame it is writing; and every thread has completed exactly the first
    `count` frames of its program. A receiving thread answering pings is one such thread (its program: the pongs). -/
theorem C12_programs (prog : Nat → List Bytes) (acc : Nat → Nat) (sched : List Nat) :
    let s := run Gen.sendLoopUnderLock acc (init prog) sched
    (∀ i, s.left i = (prog i).drop (s.order.count i)) ∧
    (s.holder = none → s.wire = (played prog s.order).2.flatten) ∧
    (∀ h, s.holder = some h → ∃ f fs pre rest, s.left h = f :: fs ∧ f = pre ++ rest ∧
      s.wire = (played prog s.order).2.flatten ++ pre) := by
  rw [WS.Props.C12.lock_scopes.1]
  have hinv := inv_reach prog acc sched
  refine ⟨fun i => ?_, hinv.sect.free, fun h hh => ?_⟩
  · rw [hinv.leftOk, played_left]
  · obtain ⟨f, fs, pre, rest, hl, _, hf, hw⟩ := hinv.sect.held h hh
    exact ⟨f, fs, pre, rest, hl, hf, hw⟩

/-- when nobody holds the lock and every thread below `n` has nothing left, the wire holds every frame of every program:
    each thread completed at least as many frames as its program has. -/
theorem C12_programs_all_sent (prog : Nat → List Bytes) (acc : Nat → Nat) (sched : List Nat) (n : Nat)
    (hfree : (run Gen.sendLoopUnderLock acc (init prog) sched).holder = none)
    (hleft : ∀ i, i < n → (run Gen.sendLoopUnderLock acc (init prog) sched).left i = []) :
    let s := run Gen.sendLoopUnderLock acc (init prog) sched
    s.wire = (played prog s.order).2.flatten ∧ ∀ i, i < n → (prog i).length ≤ s.order.count i := by
  obtain ⟨hl, hf, _⟩ := C12_programs prog acc sched
  exact ⟨hf hfree, fun i hi => List.drop_eq_nil_iff.1 ((hl i).symm.trans (hleft i hi))⟩

/-- non-vacuity, executed: two threads, programs [AB, C] and [DE]; thread 1 gets the lock between thread 0's frames. -/
example :
    let prog : Nat → List Bytes := fun i => if i = 0 then [[0x41, 0x42], [0x43]] else if i = 1 then [[0x44, 0x45]] else []
    let s := run true (fun _ => 1) (init prog) [0, 0, 1, 0, 0, 1, 1, 1, 1, 0, 0, 0, 0, 0]
    s.wire = [0x41, 0x42, 0x44, 0x45, 0x43] ∧ s.order = [0, 1, 0] ∧ s.holder = none := by decide

end WS.Props.C12c
