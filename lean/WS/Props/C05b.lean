/-
  WS.Props.C05b — C05, frame level and sequencing: `ABNF.validate` is the RFC's frame-level legality predicate (the close
  body is where the two table obligations come in: `C05_close_codes` for the status code, `C06_validate` for the reason),
  so what `recv_frame` does with a frame the decoder reads (by the parser refinement `recvFrame_decodes`) is what the RFC
  says; and `continuous_frame` is the sequencing rule.
-/
import WS.Props.C05
import WS.Props.C06
import WS.Lemmas.Legal
import WS.Lemmas.Loop
namespace WS.Props.C05b
open WS WS.Spec WS.Model WS.Lemmas.RecvStrict WS.Lemmas.Frame WS.Lemmas.Parser WS.Lemmas.Stream WS.Lemmas.Legal

theorem closeBodyOk_eq (d : Bytes) (hl : d.length ≤ 125) : closeBodyOk false d = closeBodyLegal d := by
  have hbig : decide (d.length ≥ 126) = false := decide_eq_false (Nat.not_le.2 (Nat.lt_succ_of_le hl))
  rw [closeBodyOk, closeBodyLegal, WS.Props.C05.C05_close_codes, WS.Props.C06.C06_validate, Gen.closeBodyBadEq,
    Gen.closeBodyBadGe, hbig]
  -- by the length of the body: from two bytes on `256 * d[0] + d[1]` is `unbe (d.take 2)` and the reason is `d.drop 2`
  match d with
  | [] => rfl
  | [a] => rfl
  | [a, b] => simp [unbe, wellFormed, Nat.mul_comm]
  | a :: b :: c :: r => simp [unbe, Nat.mul_comm, Bool.and_comm]

theorem opcodes_contains (op : Nat) : Gen.opcodes.contains op = isKnownOpcode op := by
  simp only [Gen.opcodes, List.contains_cons, List.contains_nil, Bool.or_false, isKnownOpcode, Bool.or_assoc]

/-- **frame-level legality** — `ABNF.validate` (UTF-8 validation on) accepts a frame exactly when the RFC's
    frame-level rules hold: reserved bits clear, assigned opcode, control frames unfragmented and ≤ 125 bytes,
    close body empty or ≥ 2 bytes with a wire-legal status code and a well-formed UTF-8 reason. -/
theorem validate_iff_legal (f : Frame) (hfin : f.fin < 2) :
    (validate f false).isNone = frameLevelLegal f := by
  have hfc : f.fin = 0 ∨ f.fin = 1 := by omega
  rw [validate_isNone, frameLevelLegal, opcodes_contains, isControl, Gen.length7, Gen.opcodeClose, Gen.opcodePing,
    Gen.opcodePong]
  by_cases hl : f.data.length ≤ 125
  · have hn : ¬ 126 ≤ f.data.length := by omega
    rw [closeBodyOk_eq _ hl]
    rcases hfc with h | h <;> simp [h, hl, hn, Bool.and_assoc, bne]   -- FIN 0, FIN 1
  · -- an oversized payload: a control frame is refused on both sides before its body is looked at
    have hn : 126 ≤ f.data.length := by omega
    cases h8 : f.opcode == 8 <;> simp [h8, hl, hn, Bool.and_assoc, bne]   -- a close frame or not

theorem decode_fin_lt {bs rest : Bytes} {w : WireFrame} (h : decode bs = .frame w rest) : w.fin < 2 := by
  obtain ⟨b0, _, _, _, _, hf, _⟩ := decode_frame h
  exact hf ▸ Nat.div_lt_of_lt_mul b0.toNat_lt

/-- C05_accept and C05_reject in one equation. -/
theorem recvFrame_legal (c : Conn) (hl : Live c) (hch : Chunks c.sock.inp) (hclr : Cleared c) (hskip : c.skipUtf8 = false)
    (w : WireFrame) (rest : Bytes) (hdec : decode (pending c) = .frame w rest) :
    ∃ c', c.recvFrame = (if frameLevelLegal (frameOfWire w) then .ok (frameOfWire w) else .error .proto, c') ∧
      pending c' = rest := by
  obtain ⟨c', e, p, _⟩ := recvFrame_decodes c hl hch hclr w rest hdec
  rw [hskip, validate_eq, validate_iff_legal (frameOfWire w) (decode_fin_lt hdec)] at e
  refine ⟨c', ?_, p⟩
  rw [e]
  cases frameLevelLegal (frameOfWire w) <;> rfl

/-- **C05_reject** — a frame the RFC forbids at frame level (reserved bit set, unassigned opcode, control
    frame fragmented or longer than 125 bytes, close body of one byte / with a status code that may not appear
    on the wire / with a reason that is not UTF-8) makes the receive call that reads it raise the PROTOCOL
    exception — for every such frame, in every encoding and chunking — and nothing of it is returned; its
    bytes are consumed, so the stream stays in step. -/
theorem C05_reject (c : Conn) (hl : Live c) (hch : Chunks c.sock.inp) (hclr : Cleared c) (hskip : c.skipUtf8 = false)
    (w : WireFrame) (rest : Bytes) (hdec : decode (pending c) = .frame w rest)
    (hill : frameLevelLegal (frameOfWire w) = false) :
    ∃ c', c.recvFrame = (.error .proto, c') ∧ pending c' = rest := by
  have h := recvFrame_legal c hl hch hclr hskip w rest hdec
  rwa [hill] at h

/-- **C05_accept** — every frame that is legal at frame level is returned by `recv_frame` as decoded. -/
theorem C05_accept (c : Conn) (hl : Live c) (hch : Chunks c.sock.inp) (hclr : Cleared c) (hskip : c.skipUtf8 = false)
    (w : WireFrame) (rest : Bytes) (hdec : decode (pending c) = .frame w rest)
    (hleg : frameLevelLegal (frameOfWire w) = true) :
    ∃ c', c.recvFrame = (.ok (frameOfWire w), c') ∧ pending c' = rest := by
  have h := recvFrame_legal c hl hch hclr hskip w rest hdec
  rwa [hleg] at h

/-- **C05_sequencing** — a continuation with no message in progress, or a new text/binary frame inside an
    unfinished message, makes the message-level receive call raise the PROTOCOL exception; and the code's
    in-message flag follows the Spec's along every history (`contAdd_flag`), so this holds at any depth. -/
theorem C05_sequencing (c c1 : Conn) (f : Frame) (fuel : Nat) (cf : Bool)
    (hrecv : c.recvFrame = (.ok f, c1)) (hdata : f.opcode = 0 ∨ f.opcode = 1 ∨ f.opcode = 2)
    (hill : seqLegal (recvingTruthy c1) f.opcode = false) :
    Conn.recvDataFrameLoop (fuel + 1) c cf = (.error .proto, c1) := by
  rw [WS.Lemmas.Walk.loop_data hrecv hdata]
  cases hcv : c1.contValidate f with
  | none =>
    rw [← contValidate_iff, hcv] at hill
    cases hill
  | some e => rw [WS.Lemmas.Walk.contValidate_proto _ _ _ hcv]

/-- the full RFC predicate splits into the two parts proved above. -/
theorem C05_spec_split (inMsg : Bool) (f : Frame) :
    frameLegal inMsg f.fin f.rsv1 f.rsv2 f.rsv3 f.opcode f.data = (frameLevelLegal f && seqLegal inMsg f.opcode) :=
  Bool.and_assoc ..

end WS.Props.C05b
