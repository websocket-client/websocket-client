/-
  WS.Props.C04c — C04, per-fragment delivery (`fire_cont_frame=True`).
-/
import WS.Lemmas.Fragments
import WS.Props.C04b
namespace WS.Props.C04c
open WS WS.Model WS.Spec WS.Lemmas.RecvStrict WS.Lemmas.Parser WS.Lemmas.Stream WS.Lemmas.ShortWrites WS.Lemmas.Loop
open WS.Lemmas.Fragments WS.Props.C04b

/-- **C04_fragment** — with per-fragment delivery enabled, one `recv_data_frame()` call absorbs any number of
    pings (≤ 125 bytes, each answered) and pongs and returns the NEXT FRAGMENT INDIVIDUALLY: the frame exactly
    as the server sent it — its own opcode, its own payload (nothing accumulated, no UTF-8 judgement on a
    partial message), its own FIN flag — over any chunking of the bytes; it consumes exactly those frames and
    leaves the in-message flag as RFC 6455 §5.4 prescribes (`nextSt`), with no fragment data retained. -/
theorem C04_fragment (cs : List Frame) (hc : ∀ f ∈ cs, isPing f ∨ isPong f) (f : Frame) (st : Option Nat)
    (hf : FragOk st f) (c : Conn) (ws : List WireFrame) (tail : Bytes)
    (hr : Ready c) (hinv : FragInv c st) (hmap : ws.map frameOfWire = cs ++ [f])
    (hval : ∀ w ∈ ws, validate (frameOfWire w) c.skipUtf8 = none) (hd : DecodesTo (pending c) ws tail) :
    ∃ c', c.recvDataFrame false = (.ok (f.opcode, f), c') ∧ Ready c' ∧ pending c' = tail ∧
      FragInv c' (nextSt st f) ∧ c'.sock.wire = c.sock.wire ++ pongsWire c.keys cs := by
  obtain ⟨c', e, r, p, i, _, w, _⟩ := fragment_call cs hc f st hf c ws tail hr hinv hmap hval hd
  exact ⟨c', e, r, p, i, w⟩

/-- a sequence of fragments (each preceded by any run of pings/pongs) that is legal from sequencing state `st`. -/
inductive FragSeq : Option Nat → List (List Frame × Frame) → Prop
  | nil {st} : FragSeq st []
  | cons {st cs f rest} : (∀ g ∈ cs, isPing g ∨ isPong g) → FragOk st f → FragSeq (nextSt st f) rest →
      FragSeq st ((cs, f) :: rest)

/-- the frames on the wire for such a sequence. -/
def framesOf : List (List Frame × Frame) → List Frame
  | [] => []
  | (cs, f) :: rest => cs ++ [f] ++ framesOf rest

/-- **C04_fragments** — … and so on for ANY sequence of fragments of any number of messages: `k` successive
    calls return the `k` fragments individually, IN ORDER, each with its own payload and final flag. -/
theorem C04_fragments (frs : List (List Frame × Frame)) : ∀ (st : Option Nat) (c : Conn) (ws : List WireFrame) (tail : Bytes),
    FragSeq st frs → Ready c → FragInv c st → ws.map frameOfWire = framesOf frs →
    (∀ w ∈ ws, validate (frameOfWire w) c.skipUtf8 = none) → DecodesTo (pending c) ws tail →
    ∃ c', recvMsgs frs.length c = (frs.map (fun p => .ok (p.2.opcode, p.2)), c') ∧ Ready c' ∧ pending c' = tail := by
  induction frs with
  | nil =>
    intro st c ws tail _ hr _ hmap _ hd
    obtain rfl := List.map_eq_nil_iff.1 hmap
    exact ⟨c, rfl, hr, decodesTo_nil hd⟩
  | cons p rest ih =>
    intro st c ws tail hs hr hi hmap hval hd
    obtain ⟨cs, f⟩ := p
    cases hs with
    | cons hc hf hrest =>
      obtain ⟨ws1, ws2, rfl, h1, h2⟩ := List.map_eq_append_iff.mp hmap
      obtain ⟨mid, d1, d2⟩ := decodesTo_append hd
      obtain ⟨hv1, hv2⟩ := List.forall_mem_append.1 hval
      obtain ⟨c1, e1, r1, p1, i1, sk1, _, _⟩ := fragment_call cs hc f st hf c ws1 mid hr hi h1 hv1 d1
      obtain ⟨c2, e2, r2, p2⟩ := ih (nextSt st f) c1 ws2 tail hrest r1 i1 h2 (sk1 ▸ hv2) (p1 ▸ d2)
      refine ⟨c2, ?_, r2, p2⟩
      simp only [recvMsgs, List.length_cons, e1, e2, List.map_cons]

/-- non-vacuity: TEXT(fin=0) "ab", PING, CONT(fin=1) "c" is a legal fragment sequence from the idle state. -/
example : FragSeq none
    [([], { fin := 0, rsv1 := 0, rsv2 := 0, rsv3 := 0, opcode := 1, mask := 0, data := [0x61, 0x62] }),
     ([{ fin := 1, rsv1 := 0, rsv2 := 0, rsv3 := 0, opcode := 9, mask := 0, data := [0x70] }],
      { fin := 1, rsv1 := 0, rsv2 := 0, rsv3 := 0, opcode := 0, mask := 0, data := [0x63] })] :=
  .cons (by simp) ⟨Or.inl rfl, Or.inl rfl⟩
    (.cons (List.forall_mem_singleton.2 (.inl ⟨rfl, rfl, by decide⟩)) ⟨Or.inr rfl, rfl⟩ .nil)

end WS.Props.C04c
