/-
  WS.Props.C10 — the opening handshake request is well-formed and reflects URL and options.

  Model: WS.Model.Handshake (`_get_handshake_headers`, `_create_sec_websocket_key`, `handshake`).
  Spec:  WS.Spec.HttpRequest (`parseRequest` — RFC 7230 grammar, nothing after the empty line;
         `expected` — the request the URL and the options call for, from the property text).
-/
import WS.Lemmas.HttpRequest
import WS.Lemmas.Http
namespace WS.Props.C10
open WS WS.PyH2 WS.H2 WS.Spec.Http WS.Model.Http WS.Model.Handshake WS.Lemmas.HttpRequest

/-- generated facts the theorems rest on (false of the pinned commit / of a changed constant):
    the `connection` option is sent as `Connection: <value>` (F15), the version is 13, the key is
    made of 16 random bytes. -/
theorem generated_facts :
    Gen.h2ConnectionNamed = true ∧ Gen.wsVersion = 13 ∧ Gen.keyRandomBytes = 16 := by decide

/-- `C10_request` for any scheme without ":" whose `secure` flag is set exactly for "wss" (as `parse_url` sets it). -/
theorem C10_request_gen (scheme : Str) (hsch : ':' ∉ scheme) (u : UrlParts)
    (hsec : u.secure = true ↔ scheme = "wss".toList) (rest : Str) (o : Opts) (rand : Bytes) (jar : Str)
    (c : Clean u o jar) :
    ∃ lines,
      getHandshakeHeaders u.resource (scheme ++ ':' :: rest) u.host u.port o rand jar = .ok (lines, Base64.encode rand)
      ∧ parseRequest (requestText lines) = some (expected u o rand jar) :=
  ⟨_, model_lines hsch c.header, parseRequest_render c.resource (headerLines_ok c rand hsec)⟩

/-- **C10_request** — for every URL (`scheme:rest` with scheme ws / wss, parts `u`), every option
    combination, every random draw and jar content without CR/LF in their components (custom
    header entries being header lines / token names, not overriding the generated key or version):
    the model of `_get_handshake_headers` succeeds with the key `base64(rand)`, and the text
    `"\r\n".join(headers)` it sends is a syntactically valid HTTP/1.1 GET request, ended by one
    empty line with nothing after it, whose target and header fields are exactly the expected ones
    (target = path and query; Host with the 80/443 rule and IPv6 brackets; Upgrade; Connection;
    Sec-WebSocket-Version 13; Sec-WebSocket-Key; Origin / Host override / subprotocols / custom
    headers with `None` skipped / cookies as the options say). -/
theorem C10_request (u : UrlParts) (rest : Str) (o : Opts) (rand : Bytes) (jar : Str)
    (c : Clean u o jar) :
    ∃ lines,
      getHandshakeHeaders u.resource ((if u.secure then "wss" else "ws").toList ++ ':' :: rest)
          u.host u.port o rand jar = .ok (lines, Base64.encode rand)
      ∧ parseRequest (requestText lines) = some (expected u o rand jar) := by
  refine C10_request_gen _ ?_ u ?_ rest o rand jar c
  · cases u.secure <;> lit decide
  · cases u.secure <;> lit decide

/-- the hypotheses of `C10_request` are satisfiable, with every option in play. -/
example : Clean ⟨"2001:db8::1".toList, 8080, "/a/b?x=1".toList, true⟩
    { host := some "h.example".toList, origin := some "https://o.example".toList,
      header := .dict [("X-A".toList, some "1".toList), ("X-N".toList, none)],
      connection := some "keep-alive, Upgrade".toList, subprotocols := ["chat".toList, "superchat".toList],
      cookie := some "a=1".toList } "sid=1".toList := by
  -- literals as character lists first: see `lit`
  repeat rw [String.toList_ofList]
  exact
    { resource := by decide, host := by decide
      optHost := by
        rintro _ ⟨⟩
        decide
      origin := by
        rintro _ ⟨⟩
        decide
      connection := by
        rintro _ ⟨⟩
        decide
      subs := by decide
      cookie := by
        rintro _ ⟨⟩
        decide
      jar := by decide
      header := by
        intro kv hkv
        simp only [List.mem_cons, List.not_mem_nil, or_false] at hkv
        rcases hkv with rfl | rfl
        · exact ⟨by lit decide, fun v e => by cases e; decide, by lit decide⟩
        · exact ⟨by lit decide, nofun, by lit decide⟩ }

/-- **C10_key** — the key sent is the base64 text of the random draw: it decodes back to exactly
    those bytes (base64 round trip, proved for all lengths) and, for a 16-byte draw, is 24
    characters long. -/
theorem C10_key (rand : Bytes) :
    Base64.decode (createKey rand) = some rand ∧
    (rand.length = Gen.keyRandomBytes → (createKey rand).length = 24 ∧ keyOk (createKey rand) rand 16 = true) := by
  rw [createKey_eq]
  refine ⟨Lemmas.Base64.decode_encode rand, ?_⟩
  intro (h16 : rand.length = 16)
  refine ⟨by rw [Lemmas.Base64.encode_length, h16], ?_⟩
  simp [keyOk, h16, Lemmas.Base64.decode_encode]

/-- two different draws give two different keys (freshness carries over from `os.urandom`). -/
theorem C10_key_injective (r1 r2 : Bytes) (h : createKey r1 = createKey r2) : r1 = r2 := by
  have h1 := (C10_key r1).1
  rw [h, (C10_key r2).1] at h1
  exact (Option.some.inj h1).symm

/-- **C10_one_write** — `handshake` hands the transport the request in exactly one write, and
    that write precedes every read: the I/O of a handshake is either nothing (the headers could
    not be built), or one write followed by reads only; the bytes written are the UTF-8 encoding
    of `"\r\n".join(headers)`. -/
theorem C10_one_write (acceptOf : Str → Str) (s : Sock) (url : Str) (u : UrlParts) (o : Opts)
    (rand : Bytes) (jar : Str) (r : Except HExn HsResp) (s' : Sock) (io : List IoEv)
    (hrun : handshake acceptOf s url u o rand jar = (r, s', io)) :
    io = [] ∨
    ∃ lines key reads,
      getHandshakeHeaders u.resource url u.host u.port o rand jar = .ok (lines, key) ∧
      io = .write (encodeUtf8 (requestText lines)) :: reads ∧ ∀ e ∈ reads, ∃ n, e = IoEv.recv n := by
  rcases Lemmas.Http.handshake_cases hrun with ⟨_, -, -, hio⟩ | ⟨lines, key, reads, hheaders, hio, hreads, -⟩
  · exact .inl hio
  · exact .inr ⟨lines, key, reads, hheaders, hio, fun e he => (hreads e he).imp fun _ h => h.1⟩

end WS.Props.C10
