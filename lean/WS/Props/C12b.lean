/-
  WS.Props.C12b — C12, concurrent receivers.
-/
import WS.Lemmas.Readers
import WS.Props.C12
namespace WS.Props.C12b
open WS WS.Model WS.Model.Readers WS.Lemmas.Readers WS.Lemmas.Loop

/-- **C12_receivers** — for ANY number of concurrent `recv()` calls (tasks), ANY sequence of messages (each with
    any fragmentation, any pings/pongs interleaved) and **every schedule**: at every point of the run

    * the messages delivered so far are exactly the FIRST `k` messages of the stream, in order, each INTACT
      (opcode of its first fragment, in-order concatenation of its fragments — `deliverOf`), never a mixture of
      two messages' fragments, none lost, none duplicated;
    * each was delivered to a DIFFERENT call (`Nodup`), and a call is finished iff it received one;
    * whenever the read lock is free the unread stream is exactly the remaining messages and the shared
      reassembly state is idle — so the next call starts on a message boundary.

    The lock scope is the generated fact `Gen.recvUnderReadlock` (`C12.lock_scopes`). -/
theorem C12_receivers (msgs : List (List Frame)) (hm : ∀ fs ∈ msgs, MsgFrames none fs) (sched : List Nat) :
    let s := run Gen.recvUnderReadlock (init msgs.flatten) sched
    ∃ k, k ≤ msgs.length ∧ s.delivered.map (·.2) = (msgs.take k).map deliverOf ∧
      (s.delivered.map (·.1)).Nodup ∧ (∀ i, s.pc i = .done ↔ i ∈ s.delivered.map (·.1)) ∧
      (s.holder = none → s.stream = (msgs.drop k).flatten ∧ s.cont = none) := by
  rw [WS.Props.C12.lock_scopes.2.1]
  obtain ⟨hlog, dm, rm, rfl, hdel, hsect⟩ := inv_reach msgs hm sched
  exact ⟨dm.length, List.length_append ▸ Nat.le_add_right .., List.take_left ▸ hdel, hlog.nodup, hlog.iff,
    List.drop_left ▸ hsect.free⟩

/-- when `n ≤ msgs.length` calls have all finished, exactly the first `n` messages were delivered, one per call. -/
theorem C12_receivers_all_done (n : Nat) (msgs : List (List Frame)) (hm : ∀ fs ∈ msgs, MsgFrames none fs)
    (sched : List Nat) (hs : ∀ i ∈ sched, i < n)
    (hdone : ∀ i, i < n → (run Gen.recvUnderReadlock (init msgs.flatten) sched).pc i = .done) :
    let s := run Gen.recvUnderReadlock (init msgs.flatten) sched
    n ≤ s.delivered.length ∧ s.delivered.map (·.2) = (msgs.take s.delivered.length).map deliverOf ∧
      (s.delivered.map (·.1)).Nodup := by
  intro s
  obtain ⟨k, hk, hdel, hnd, hiff, _⟩ := C12_receivers msgs hm sched
  have hlen : s.delivered.length = k := by simpa [Nat.min_eq_left hk] using congrArg List.length hdel
  refine ⟨?_, hlen ▸ hdel, hnd⟩
  -- the n finished tasks are n distinct members of the delivered list
  simpa using List.nodup_range.length_le_of_subset fun i hi => (hiff i).1 (hdone i (List.mem_range.1 hi))

/-- non-vacuity: two messages (one fragmented around a ping), two tasks, an interleaved schedule. -/
example :
    let m1 : List Frame := [{ fin := 0, rsv1 := 0, rsv2 := 0, rsv3 := 0, opcode := 2, mask := 0, data := [1] },
                            { fin := 1, rsv1 := 0, rsv2 := 0, rsv3 := 0, opcode := 9, mask := 0, data := [] },
                            { fin := 1, rsv1 := 0, rsv2 := 0, rsv3 := 0, opcode := 0, mask := 0, data := [2] }]
    let m2 : List Frame := [{ fin := 1, rsv1 := 0, rsv2 := 0, rsv3 := 0, opcode := 2, mask := 0, data := [3] }]
    (run true (init (m1 ++ m2)) [0, 1, 0, 1, 0, 0, 1, 0, 0, 0, 1, 1, 1]).delivered = [(0, 2, [1, 2]), (1, 2, [3])] := by
  decide

end WS.Props.C12b
