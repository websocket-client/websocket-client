/-
  WS.Props.C08c — C08, "once the connection has been … lost, the transport is released".
-/
import WS.Lemmas.Loss
import WS.Props.C08
namespace WS.Props.C08c
open WS WS.Model WS.Lemmas.OwnClose WS.Lemmas.Loss

/-- **C08_released_consistent** — over EVERY sequence of client calls (send, ping, pong, recv, recv_data,
    recv_data_frame, recv_frame, send_close, close, shutdown, abort — any arguments) interleaved with EVERY server
    script (data, pings, close frames, end of stream, silence, resets, any chunking and timing): at every point where
    the object holds no transport (`sock is None`) it is unconnected and the transport it held HAS BEEN CLOSED —
    there is no state "released but still connected" or "reference dropped, descriptor left open". -/
theorem C08_released_consistent (c : Conn) (h0 : c.hasSock = true) (ops : List Op) :
    (runOps c ops).hasSock = false → (runOps c ops).connected = false ∧ (runOps c ops).sock.closed = true :=
  (Loss.of_run (runOps_run ops c)).1 fun h => nomatch h0.symm.trans h

/-- **C08_loss_releases** — a receive call that raises the connection-closed exception (the peer ended the stream, at
    whatever byte position, after whatever traffic and automatic replies — or the object had been released before)
    leaves the object released: no transport reference, `connected = False`, transport closed. -/
theorem C08_loss_releases (c : Conn) (cf : Bool) (hinv : c.hasSock = false → c.connected = false ∧ c.sock.closed = true)
    (hc : (c.recvDataFrame cf).1 = .error .closed) :
    (c.recvDataFrame cf).2.hasSock = false ∧ (c.recvDataFrame cf).2.connected = false ∧
    (c.recvDataFrame cf).2.sock.closed = true := by
  have h := Loss.of_run (WS.Lemmas.Link.recvDataFrameLoop_run (c.sock.size + c.buf.length + 2) cf c)
  have hs := h.2 (congrArg WS.Lemmas.RecvStrict.raised hc)
  exact ⟨hs, h.1 hinv hs⟩

/-- the same for a send: CLOSED is raised only by an object that is (and stays) released. -/
theorem C08_send_closed_released (c : Conn) (p : Bytes) (op : Nat) (hc : (c.send p op).1 = .error .closed) :
    (c.send p op).2.hasSock = false := by
  exact (Loss.of_run (WS.Lemmas.Link.sendFrame_run c (createFrame p op))).2 (congrArg WS.Lemmas.RecvStrict.raised hc)

/-- non-vacuity: end of stream in the middle of a frame — `recv` raises CLOSED and the object is released. -/
example : errE (({ sock := { inp := [.chunk [0x81, 0x05, 0x61], .eof] } } : Conn).recvDataFrame false).1 = some .closed ∧
    (({ sock := { inp := [.chunk [0x81, 0x05, 0x61], .eof] } } : Conn).recvDataFrame false).2.hasSock = false := by decide

end WS.Props.C08c
