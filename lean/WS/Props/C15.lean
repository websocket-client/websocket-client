/-
  WS.Props.C15 — property theorems for C15 (automatic reconnection restores service after loss and stops
  on request), built-in dispatcher loop.
  `C15_retry` / `C15_interval`: exact network skeleton and callback trace of a run
  in which the first attempt and any number of further attempts fail (refused or rejected) before a
  connection is established and finally closed by the server.  `C15_stops`: once `keep_running` is cleared
  (server close frame through teardown, or the application's close()) the reconnect loop dials no more --
  for every state.  Established-then-lost connections followed by a reconnect: `C15c.C15_resumes`.  The ping-timeout loss
  and the external dispatcher are covered by the correspondence runs only.
-/
import WS.Lemmas.AppLost
import WS.Lemmas.AppHoare
import WS.Lemmas.AppRes
namespace WS.Props.C15
open WS WS.Model.App WS.Lemmas.App
open WS.Spec.AppTrace (cbOnly expectedConn reportTrace)

/-- **C15_retry / C15_interval / C15_stops (server close)** — reconnect interval `r > 0`, callbacks that return
    or raise, any subset of callbacks; the first attempt `d` and then every attempt in `ds` (any number) is
    refused or rejected; the next one is established, carries the legal traffic `legal` and is closed by the
    server with `body`.  Then:
    * network skeleton: first attempt at t₀; each further attempt is preceded by `sleep r` and happens exactly
      `r` later (`retryTrace`), every failed socket is released before the next dial; the successful dial is
      attempt number `|ds| + 1` at `t₀ + (|ds|+1)·r`; after the server's close frame there is no further dial:
      the run returns (True: an error was reported);
    * callbacks: the first failure is reported once to on_error; nothing is called during the retries; on the
      new connection on_reconnect (on_open if not set) fires first and the traffic is delivered as in C13;
      on_close is called once, at the end, with the close frame's code and reason. -/
theorem C15_retry (c : Cfg) (hq : Quiet c) (hacc : argsAccepted c.iv c.to = true) (hiv : c.iv = 0)
    (hr : c.reconnect ≠ 0) (s0 : St) (d : Dial) (ds : List Dial) (legal : List TEv) (te : TEv) (body : Bytes)
    (hs0 : s0.sock = none) (hp0 : s0.ping = none)
    (hd : s0.dials = (d :: ds) ++ [.established (legal ++ [te])])
    (hfails : ∀ x ∈ d :: ds, isFail x = true)
    (hleg : ∀ e ∈ legal, isLegal e.ev = true) (hk : te.ev = .close body)
    (hfuel : need0 (selectTimeout c) (legal ++ [te]) + 1 ≤ c.fuel) (hfuel2 : ds.length + 2 ≤ c.fuel)
    (hz : endTime (s0.now + (ds.length + 1) * c.reconnect) (legal ++ [te]) ≤ c.horizon) :
    let r := c.reconnect
    let tK := s0.now + ds.length * r
    let iK := s0.nextIdx + 1 + ds.length
    let tEnd := endTime (tK + r) (legal ++ [te])
    (runForeverO c s0).2 = .returned true ∧
    netOnly (runForever c s0).trace =
      netOnly s0.trace ++ [(s0.now, .dial s0.nextIdx), (s0.now, .sockClosed s0.nextIdx)] ++
        retryTrace r s0.now (s0.nextIdx + 1) ds.length ++
        [(tK, .sleep r), (tK + r, .dial iK), (tEnd, .sockDropped iK), (tEnd, .returned true)] ∧
    ∃ calls1 calls2, cbOnly (runForever c s0).trace =
      cbOnly s0.trace ++ cbTrace c s0.calls s0.now .onError [.exn (dialExn d)] ++
        expectedConn c.has c.plan calls1 (tK + r) (openCb c true) (legal ++ [te]) ++
        cbTrace c calls2 tEnd .onClose (closeArgs c (some body)) := by
  intro r tK iK tEnd
  obtain ⟨e1, e2, e3, e4⟩ := atts_fail c c.reconnect ds s0.now (s0.nextIdx + 1) (cbCalls c s0.calls .onError)
  obtain ⟨h1, h2, h3⟩ := run_resumes c hq hacc hiv hr s0 (.fail d) (ds.map .fail) legal te body hs0 hp0
    (Or.inl (hfails d (by simp))) (by simpa [Function.comp_def, Att.toDial] using hd) (by simpa [Att.Ok] using hfails)
    hleg hk hfuel (by simp [Att.fuel]) (by simpa using hfuel2)
    (by rw [attEnd, e1, Nat.add_assoc, ← Nat.succ_mul]; exact hz)
  simp only [attEnd, attOpen, attClose, attCb, Bool.false_eq_true, ↓reduceIte, e1, e2, e3, e4, List.length_map,
    List.append_nil] at h2 h3
  rw [finalCb_eq_expectedConn c _ _ legal te body hleg (hk ▸ rfl), ← List.append_assoc] at h3
  exact ⟨h1, by rw [h2]; simp [relTrace, List.append_assoc, tK, iK, tEnd, r], _, _, h3⟩

/-- **C15_interval** — in `retryTrace` the k-th retry (k = 1, 2, …) is dialled at exactly `t + k·r`, on socket
    `i + k - 1`, right after a `sleep r` that started at `t + (k-1)·r`. -/
theorem C15_interval (r t i : Nat) : ∀ (n k : Nat), k < n →
    (retryTrace r t i n)[3 * k]? = some (t + k * r, .sleep r) ∧
    (retryTrace r t i n)[3 * k + 1]? = some (t + (k + 1) * r, .dial (i + k)) ∧
    (retryTrace r t i n)[3 * k + 2]? = some (t + (k + 1) * r, .sockClosed (i + k)) := by
  intro n
  induction n generalizing t i with
  | zero => nofun
  | succ m ih =>
    rintro (_ | j) hk
    · simp [retryTrace]
    · have := ih (t + r) (i + 1) j (Nat.lt_of_succ_lt_succ hk)
      simp only [Nat.succ_mul] at this
      simp only [retryTrace, Nat.mul_succ, Nat.succ_mul, List.cons_append, List.nil_append, List.getElem?_cons_succ]
      -- the same look-ups, three places further on; the sums agree up to the order of their terms
      simpa only [Nat.add_assoc, Nat.add_comm r, Nat.add_comm 1] using this

/-- **C15_stops** — for every state, configuration and plan:
    (a) once `keep_running` is cleared the reconnect loop returns without sleeping or dialling;
    (b) a close frame from the server clears it (teardown runs; then `Qst`: loop stopped, socket and ping
        thread gone) unless the model is cut while waiting;
    (c) the application's close() clears it.
    Hence neither a server close frame nor close() is followed by a connection attempt. -/
theorem C15_stops :
    (∀ (c : Cfg) (n : Nat) (s : St), s.keepRunning = false → reconnectLoop c (n + 1) s = (s, .ok ())) ∧
    (∀ (c : Cfg) (s : St) (body : Bytes), CloseOk c → s.hasDoneTeardown = false →
        (handleEv c s (.close body)).2.isHalt = true ∨ Qst (handleEv c s (.close body)).1) ∧
    (∀ (c : Cfg) (s : St), (appClose c s).1.keepRunning = false) := by
  refine ⟨reconnectLoop_Q, ?_, fun c s => (appClose_frame c s).kr⟩
  intro c s body hco hp
  simp only [handleEv, gen_closeToTeardown, ↓reduceIte, asRead_fst, asRead_halt]
  obtain ⟨s', h | ⟨h, q, -⟩⟩ := teardown_P c hco _ (some body) ((Low.closeSeen (c := c)).frame.hdt.trans hp) <;> rw [h]
  · exact .inl rfl
  · exact .inr q

/-- **C15_resources** — for EVERY world (any dial outcomes and server histories), every callback plan (callbacks may
    return, raise, call close() or raise KeyboardInterrupt at any invocation -- also on_error / on_close),
    every schedule of the ping thread, keepalive and reconnection on or off, plain or TLS-style: started on
    an object without socket and ping thread (as after construction or after any run that returned), a call
    of run_forever never has more than one transport open and never more than one ping thread alive, at any
    point of its trace; and the counts at the end agree with the object's state. -/
theorem C15_resources (c : Cfg) (s0 : St) (h : RI s0) (hs : s0.sock = none) (hp : s0.ping = none) :
    Spec.AppTrace.resourcesBounded (runForever c s0).trace 0 0 = true ∧ RI (runForever c s0) :=
  ⟨(ri_runForever c s0 h hs hp).bnd, ri_runForever c s0 h hs hp⟩

/-- a freshly constructed object satisfies the hypotheses of `C15_resources`, whatever the world -/
theorem C15_resources_fresh (c : Cfg) (w : List Dial) :
    Spec.AppTrace.resourcesBounded (runForever c { dials := w }).trace 0 0 = true :=
  (C15_resources c { dials := w } ⟨rfl, rfl, rfl⟩ rfl rfl).1

/-- after a run that returned, nothing is left: no open transport, no live ping thread (counted on the
    trace), so the next run starts from the hypotheses of `C15_resources` again -/
theorem C15_resources_after_return (c : Cfg) (hco : CloseOk c) (s0 : St) (h : RI s0) (hs : s0.sock = none)
    (hp : s0.ping = none) (b : Bool) (hr : (runForeverO c s0).2 = .returned b) :
    Spec.AppTrace.live (runForever c s0).trace = 0 ∧ Spec.AppTrace.livePings (runForever c s0).trace = 0 := by
  have r := ri_runForever c s0 h hs hp
  obtain ⟨q, -⟩ := returned_spec c hco s0 b hr
  exact ⟨by rw [r.lv]; simp [openSock, q.sk, b2i], by rw [r.pg, q.pg]; simp [b2i]⟩

/-- a world with an established connection that is lost (end of stream), a refused retry and a second
    connection closed by the server, reconnect = 1 s: network skeleton and callbacks (evaluated by the kernel) -/
example :
    let c : Cfg := { has := fun _ => true, plan := fun _ => [], iv := 0, to := none, payload := [],
                     reconnect := 1024, ssl := false, horizon := 100000, fuel := 50 }
    let w : St := { dials := [.established [⟨100, false, .message 2 [1] false⟩, ⟨100, false, .eof⟩], .refused,
                              .established [⟨70, false, .message 1 [0x61] false⟩, ⟨40, false, .close [3, 232]⟩]] }
    netOnly (runForever c w).trace =
      [(0, .dial 0), (200, .sockClosed 0), (200, .sleep 1024), (1224, .dial 1), (1224, .sockClosed 1),
       (1224, .sleep 1024), (2248, .dial 2), (2358, .sockDropped 2), (2358, .returned true)] ∧
    (cbs (runForever c w)).map (·.1) =
      [.onOpen, .onData, .onMessage, .onError, .onReconnect, .onData, .onMessage, .onClose] := by
  decide +kernel

end WS.Props.C15
