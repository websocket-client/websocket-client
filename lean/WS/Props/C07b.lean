/-
  WS.Props.C07b — C07, "before it reads any further".
-/
import WS.Lemmas.Exact
import WS.Props.C07
namespace WS.Props.C07b
open WS WS.Model WS.Spec WS.Lemmas.RecvStrict WS.Lemmas.Parser WS.Lemmas.Stream WS.Lemmas.Loop WS.Lemmas.ShortWrites WS.Lemmas.Exact

theorem validate_ping_len (f : Frame) (skip : Bool) (hop : f.opcode = 9) (hv : validate f skip = none) :
    f.data.length < 126 := by
  have h := WS.Lemmas.Frame.validate_isNone f skip
  have k : Gen.opcodePing = 9 ∧ Gen.length7 = 126 := by decide
  simp [hv, hop, k.1, k.2] at h
  omega

/-- **C07_prompt** — "before it reads any further": when the receive loop has read a ping (≤ 125 bytes) from a
    transport whose buffer was empty, then at the moment it writes the pong it has taken from the transport
    EXACTLY the bytes up to the end of that ping (`c1.buf = []` and the transport still holds precisely the
    bytes that follow the ping); the pong is then written in full, as one frame, with the transport's unread
    bytes untouched. For every chunking and every short-write pattern. -/
theorem C07_prompt (c : Conn) (hr : Ready c) (hbuf : c.buf = []) (w : WireFrame) (rest : Bytes)
    (hdec : decode (pending c) = .frame w rest) (hv : validate (frameOfWire w) c.skipUtf8 = none)
    (hping : (frameOfWire w).opcode = 9) :
    ∃ c1 wp c2, c.recvFrame = (.ok (frameOfWire w), c1) ∧ c1.buf = [] ∧ bytesOf c1.sock.inp = rest ∧
      c1.pong (frameOfWire w).data = (.ok wp.length, c2) ∧ c2.sock.wire = c.sock.wire ++ wp ∧
      bytesOf c2.sock.inp = rest ∧ c2.buf = [] := by
  obtain ⟨c1, e1, h1, s1⟩ := step_recv (fs := [])
    ⟨hr, [w], rfl, .cons hdec (.nil rest), List.forall_mem_singleton.2 hv⟩
  have hb1 := recvFrame_exact c hbuf _ c1 e1
  have hin1 : bytesOf c1.sock.inp = rest := by simpa [pending, hb1] using h1.pending
  have hlen := validate_ping_len _ _ hping hv
  obtain ⟨wp, s, _, ⟨_, _, _, _, rfl, hwire⟩, e2⟩ := send_ok c1 (frameOfWire w).data Gen.opcodePong h1.ready.writable
    (by decide) (by omega)
  exact ⟨c1, wp, _, e1, hb1, hin1, e2, by rw [hwire, s1.wire], hin1, hb1⟩

end WS.Props.C07b
