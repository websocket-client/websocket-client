/-
  WS.Props.C09 — a connection is reported established only after a valid upgrade response.

  Model: WS.Model.Connect.connect = `WebSocket.connect` over `_http.connect`, `handshake`,
         `_get_resp_headers`, `_validate`, `read_headers` (WS.Model.{Http,Handshake,Connect}).
  Spec:  WS.Spec.Handshake.established (RFC 6455 §4.1; the property text).
  The digest function `acceptOf` (a field of `env`), `parse_url` and the proxy decision are
  parameters: the theorems hold for every such function and for every world (scripted dials,
  responses byte by byte with timeouts / resets / end of stream anywhere, TLS outcomes, random
  draws, jar contents).
-/
import WS.Lemmas.Connect
namespace WS.Props.C09
open WS WS.PyH2 WS.H2 WS.Model.Http WS.Model.Handshake WS.Model.Connect WS.Spec.Handshake
open WS.Lemmas.Handshake WS.Lemmas.Http WS.Lemmas.Connect

/-- generated tables and shape facts the theorems rest on (T) — each is false of the pinned commit
    or of a tree where the corresponding repair is reverted / a constant is changed:
    `connect()` raises when the response left after the loop is still a redirect (F6);
    the accept comparison is exact (F7); the redirect / success status tuples; the headers
    `_validate` checks; the default redirect limit. -/
theorem generated_facts :
    Gen.h2RedirectFinalCheck = true ∧ Gen.h2AcceptCaseFold = false ∧
    Gen.redirectStatuses = [301, 302, 303, 307, 308] ∧
    Gen.successStatuses = [301, 302, 303, 307, 308, 101] ∧
    Gen.headersToCheck = [["upgrade", "websocket"], ["connection", "upgrade"]] ∧
    Gen.redirectLimitDefault = 3 ∧ Gen.guid = "258EAFA5-E914-47DA-95CA-C5AB0DC85B11" :=
  ⟨rfl, rfl, rfl, rfl, rfl, rfl, rfl⟩

/-- **C09_only_if** — whenever `connect` returns, the object is connected and the last response
    `r` (the one `self.handshake_response` holds) has status 101, announces `websocket` in
    Upgrade and `upgrade` in Connection, carries *exactly* `acceptOf key` where `key` is the key
    of the request that was written on the very transport the object now holds (`Sent`), and —
    when subprotocols were offered — selects one of them.  At most `limit` redirects were
    followed (`dials ≤ limit + 1`), and every other transport that was opened has been closed. -/
theorem C09_only_if (env : Env) (world : Nat → Dial) (url : Str) (o : Opts) (limit : Option Nat)
    (userSock : Option Sock) (out : Out) (hout : connect env world url o limit userSock {} = out)
    (hok : out.res = .ok ()) :
    out.obj.connected = true ∧
    (∃ r cur, out.obj.resp = some r ∧ out.obj.sock = some cur ∧ Sent world o out.trace cur r ∧
      established env.acceptOf ⟨some r.status, r.headers⟩ r.key o.subprotocols = true ∧
      isRedirect (some r.status) = false) ∧
    out.dials ≤ limit.getD Gen.redirectLimitDefault + 1 ∧
    AllClosedBut out.trace out.obj.sock := by
  subst hout
  have hp := connect_post env world url o limit userSock (obj := {}) rfl rfl
  exact ⟨(hp.ok hok).1, (hp.ok hok).2, hp.dials_le, hp.reach.allClosedBut⟩

/-- **C09_failure_clean** — whenever `connect` raises (any exception, at any point: dial, proxy
    tunnel, TLS, write, any byte of any response, redirect without target, limit exhausted …),
    the object is left unconnected with `sock = None` and every transport that was opened during
    the call — including a socket supplied by the caller — has been closed. -/
theorem C09_failure_clean (env : Env) (world : Nat → Dial) (url : Str) (o : Opts) (limit : Option Nat)
    (userSock : Option Sock) (out : Out) (hout : connect env world url o limit userSock {} = out)
    (e : HExn) (herr : out.res = .error e) :
    out.obj.connected = false ∧ out.obj.sock = none ∧
    ∀ j, (∃ u, Ev.dial j u ∈ out.trace ∨ Ev.adopt j u ∈ out.trace) → Ev.close j ∈ out.trace := by
  subst hout
  have hp := connect_failPost env world url o limit userSock e herr
  exact ⟨hp.unconnected, hp.sock_none, fun j hj => (hp.closed j hj).resolve_left nofun⟩

/-- **C09_redirect_bound** — whatever the outcome, at most `limit + 1` calls of `_http.connect`
    are made (`limit` = the `redirect_limit` option, default `Gen.redirectLimitDefault` = 3). -/
theorem C09_redirect_bound (env : Env) (world : Nat → Dial) (url : Str) (o : Opts) (limit : Option Nat)
    (userSock : Option Sock) :
    (connect env world url o limit userSock {}).dials ≤ limit.getD Gen.redirectLimitDefault + 1 :=
  (connect_post env world url o limit userSock (obj := {}) rfl rfl).dials_le

/-- **C09_key_binding** — `_validate` accepts only a response whose accept header holds
    `acceptOf key` for the key of *this* request: a response carrying `acceptOf key'` for any other
    key (a previous attempt's, a replayed one) with `acceptOf key' ≠ acceptOf key` is rejected.
    (Injectivity of the concrete digest on the keys drawn is evaluated in the correspondence runs.) -/
theorem C09_key_binding (acceptOf : Str → Str) (hdrs : Dict) (key key' : Str) (subs : List Str)
    (hother : dictGetTruthy hdrs "sec-websocket-accept".toList = some (acceptOf key'))
    (hne : acceptOf key' ≠ acceptOf key) :
    (validate acceptOf hdrs key subs).1 = false := by
  rcases hv : validate acceptOf hdrs key subs with ⟨_ | _, sp⟩
  · rfl
  · obtain ⟨-, -, haccept⟩ := validate_core hv
    exact absurd (Option.some.inj (hother.symm.trans haccept)) hne

/-- the same for a whole `handshake`: if it returns a non-redirect response, the accept header of
    that response is `acceptOf` of the key of the request just written — so a response carrying
    the digest of another attempt's key (different digest) makes `handshake` raise. -/
theorem C09_key_binding_handshake (acceptOf : Str → Str) (s : Sock) (url : Str) (u : UrlParts) (o : Opts)
    (rand : Bytes) (jar : Str) (r : HsResp) (s' : Sock) (io : List IoEv)
    (h : handshake acceptOf s url u o rand jar = (.ok r, s', io))
    (hnot : isRedirect (some r.status) = false) :
    dictGetTruthy r.headers "sec-websocket-accept".toList = some (acceptOf r.key) ∧
    ∃ lines, getHandshakeHeaders u.resource url u.host u.port o rand jar = .ok (lines, r.key) := by
  rcases handshake_cases h with ⟨_, -, herr, -⟩ | ⟨lines, _, _, hheaders, -, -, rfl, hvalid⟩
  · cases herr
  · exact ⟨(hvalid.resolve_left (Bool.eq_false_iff.mp hnot)).2, lines, hheaders⟩

private def demoEnv : Env :=
  { acceptOf := fun _ => "x".toList
    parseUrl := fun _ => .ok ⟨"h".toList, 80, "/".toList, false⟩
    proxy := fun _ => {}
    sslopt := {}
    tlsEnv := {} }

private def bytesOf (s : String) : List HEv := (encodeUtf8 s.toList).map HEv.byte

private def good : Dial :=
  { sock := ⟨bytesOf "HTTP/1.1 101 OK\r\nUpgrade: websocket\r\nConnection: Upgrade\r\nSec-WebSocket-Accept: x\r\n\r\n", .eof, none⟩ }

private def moved : Dial :=
  { sock := ⟨bytesOf "HTTP/1.1 301 Moved\r\nLocation: ws://b/\r\n\r\n", .eof, none⟩ }

/-- a valid response connects; a redirect is followed to a valid response; with the limit
    exhausted the call raises BADSTATUS(301) and leaves nothing open (F6 repaired); a wrong accept
    value raises. -/
example :
    (connect demoEnv (fun _ => good) "ws://a/".toList {} none none {}).res = .ok () ∧
    (connect demoEnv (fun i => if i = 0 then moved else good) "ws://a/".toList {} none none {}).dials = 2 ∧
    (connect demoEnv (fun i => if i = 0 then moved else good) "ws://a/".toList {} none none {}).res = .ok () ∧
    (connect demoEnv (fun _ => moved) "ws://a/".toList {} (some 1) none {}).res = .error (.badstatus (some 301)) ∧
    (connect demoEnv (fun _ => moved) "ws://a/".toList {} (some 1) none {}).dials = 2 ∧
    (connect { demoEnv with acceptOf := fun _ => "y".toList } (fun _ => good) "ws://a/".toList {} none none {}).res
      = .error .wsgeneric := by
  -- literals as character lists first: see `lit`
  unfold good moved bytesOf
  repeat rw [String.toList_ofList]
  decide +kernel

end WS.Props.C09
