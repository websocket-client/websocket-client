/-
  WS.Props.C08 — closing handshake and connection state follow one consistent state machine.
-/
import WS.Lemmas.Released
import WS.Lemmas.OwnClose
namespace WS.Props.C08
open WS WS.Model WS.Lemmas.Released WS.Lemmas.OwnClose

/-- the range test of `send_close` / `close`, as a proposition. -/
theorem badStatus_iff (s : Int) : (decide (s < 0) || decide (s ≥ (Gen.length16 : Int))) = true ↔ s < 0 ∨ s ≥ 65536 := by
  have h16 : (Gen.length16 : Int) = 65536 := by decide
  simp [h16]

/-- **C08_status_range (send_close)** — a status outside 0..65535 is refused with ValueError and the
    state (wire included) is untouched, whatever the state. -/
theorem C08_status_range_sendClose (c : Conn) (s : Int) (r : Bytes) (h : s < 0 ∨ s ≥ 65536) :
    c.sendClose s r = (.error .valueError, c) :=
  if_pos ((badStatus_iff s).2 h)

/-- **C08_status_range (close)** — on a connected object an out-of-range status raises ValueError with
    the state untouched; on an unconnected one close() returns at once, again touching nothing. -/
theorem C08_status_range_close (c : Conn) (s : Int) (r : Bytes) (t : Option Nat) (h : s < 0 ∨ s ≥ 65536) :
    c.close s r t = (if c.connected then some .valueError else none, c) := by
  unfold Conn.close
  rw [if_pos ((badStatus_iff s).2 h)]
  cases c.connected <;> rfl

/-- **C08_inert (receive)** — once the socket has been released (`sock is None`, after a connected
    `close()` or a loss), `recv_frame`, and every message-level receive built on it, make **zero transport
    calls**: the socket record (script, call counter, bytes written, clock) is unchanged, for every state
    and every fuel. -/
theorem C08_inert_recvFrame (c : Conn) (h : c.hasSock = false) :
    c.recvFrame.2.sock = c.sock ∧ c.recvFrame.2.hasSock = false :=
  runOps_released c h [.recvFrame]

theorem C08_inert_recvDataFrame (c : Conn) (cf : Bool) (h : c.hasSock = false) :
    (c.recvDataFrame cf).2.sock = c.sock ∧ (c.recvDataFrame cf).2.hasSock = false :=
  runOps_released c h [.recvDataFrame cf]

/-- **C08_inert (send)** — on a released object every send of a frame that formats raises the
    connection-closed exception and touches no transport. -/
theorem C08_inert_send (c : Conn) (p : Bytes) (op : Nat) (h : c.hasSock = false)
    (hop : op ∈ Gen.opcodes) (hlen : p.length < 2 ^ 63) :
    (c.send p op).1 = .error .closed ∧ (c.send p op).2.sock = c.sock := by
  obtain ⟨w, hw⟩ := WS.Lemmas.Frame.format_createFrame_ok p op (c.keys.headD [0, 0, 0, 0]) hop hlen
  exact ⟨sendFrame_released_closed c _ h hw, (runOps_released c h [.send p op]).1⟩

theorem shutdown_released (c : Conn) : c.shutdown.hasSock = false := by
  unfold Conn.shutdown
  cases h : c.hasSock <;> simp [h]

/-- **C08_close_releases** — whatever the peer does (answers, keeps sending, stays silent, ends the stream,
    or the write of the close frame fails), `close()` on a connected object returns normally and leaves
    the object released and unconnected-by-construction (`shutdown()` ran last). -/
theorem C08_close_releases (c : Conn) (s : Int) (r : Bytes) (t : Option Nat)
    (hs : 0 ≤ s ∧ s < 65536) (hc : c.connected = true) :
    ∃ c', c.close s r t = (none, Conn.shutdown c') := by
  unfold Conn.close
  rw [if_neg (by simp [hc]), if_neg (mt (badStatus_iff s).1 (by omega))]
  exact ⟨_, rfl⟩

theorem C08_close_released (c : Conn) (s : Int) (r : Bytes) (t : Option Nat)
    (hs : 0 ≤ s ∧ s < 65536) (hc : c.connected = true) :
    (c.close s r t).1 = none ∧ (c.close s r t).2.hasSock = false := by
  obtain ⟨c', h⟩ := C08_close_releases c s r t hs hc
  rw [h]
  exact ⟨rfl, shutdown_released c'⟩

/-- **C08_own_close_once** — over EVERY sequence of client calls (send, ping, pong, recv, recv_data,
    recv_data_frame, recv_frame, send_close, close, shutdown, abort — any arguments) interleaved with EVERY server
    script (the transport inside the state: data, pings, close frames, end of stream, silence, resets, in any
    chunking and timing), starting from a connection that has written no close frame: the number of close frames
    the client writes on its own initiative — by `close()` or as the automatic reply to the server's close
    (`ownCloses` is a ghost counter incremented exactly at those two writes) — never exceeds ONE, and is zero as
    long as the object is connected. -/
theorem C08_own_close_once (c : Conn) (h0 : c.ownCloses = 0) (ops : List Op) :
    (runOps c ops).ownCloses ≤ 1 ∧ ((runOps c ops).connected = true → (runOps c ops).ownCloses = 0) :=
  OwnInv.run (l := WS.Lemmas.Link.link c) ⟨show c.ownCloses ≤ 1 by omega, fun _ => h0⟩ (runOps_run ops c)

/-- the two writers really are counted: a connected `close()` and the reply to a server close frame. -/
example : ((({ sock := { inp := [.chunk [0x88, 0x00]] } } : Conn).recvDataFrame true).2.ownCloses = 1) ∧
    ((({ } : Conn).close 1000 [] (some 10)).2.ownCloses = 1) := by decide

end WS.Props.C08
