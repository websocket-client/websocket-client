/-
  WS.Props.C15d — `C15c.C15_resumes` with the ping thread running (any interval ≥ 0, no ping timeout, every schedule of the
  ping thread): lifted through `C13b.ka_lift`, like `C15b.C15_retry_keepalive`.
-/
import WS.Props.C13b
import WS.Props.C15c
namespace WS.Props.C15d
open WS WS.Model.App WS.Lemmas.App WS.Lemmas.App.KA WS.Spec.AppTrace

/-- **C15_resumes_keepalive** — `C15_resumes` with keepalive on (no ping timeout), for every schedule of the ping thread: any
    mix of failed attempts and established-then-lost connections, then a connection the server closes — the same return
    value, the same network skeleton (each retry exactly one interval after the loss, the transport left open released before
    the dial, one connection at a time, no dial after the server's close frame) and the same callbacks (on_error once for the
    first failure or loss only, the opening callback first on every connection, the Spec's deliveries, on_close last) as with
    keepalive off: the ping thread's own events aside, nothing changes.  (`off c` is `c` with `ping_interval = 0`; `attCb`,
    `attsCb` and `finalCb` read only `has` and `plan`, so those of `off c` in the conclusion are those of `c`.) -/
theorem C15_resumes_keepalive (c : Cfg) (hq : Quiet c) (hto : c.to = none) (hiv : 0 ≤ c.iv)
    (hr : c.reconnect ≠ 0) (s0 : St) (a : Att) (as : List Att) (legal : List TEv) (te : TEv) (body : Bytes)
    (hs0 : s0.sock = none)
    (hd : s0.dials = (a :: as).map Att.toDial ++ [.established (legal ++ [te])])
    (hok : ∀ x ∈ a :: as, x.Ok)
    (hleg : ∀ e ∈ legal, isLegal e.ev = true) (hk : te.ev = .close body)
    (hfuel : need0 (selectTimeout c) (legal ++ [te]) + 1 ≤ c.fuel)
    (hfl : ∀ x ∈ a :: as, x.fuel (selectTimeout c) ≤ c.fuel) (hfuel2 : as.length + 2 ≤ c.fuel)
    (hz : endTime (attsEnd c.reconnect (attEnd s0.now a) as + c.reconnect) (legal ++ [te]) ≤ c.horizon) :
    let r := c.reconnect
    let t1 := attEnd s0.now a
    let i1 := s0.nextIdx + 1
    let o1 := attOpen s0.nextIdx a
    let tK := attsEnd r t1 as
    let iK := i1 + as.length
    let tEnd := endTime (tK + r) (legal ++ [te])
    (runForeverO c s0).2 = .returned true ∧
    netOnly (runForever c s0).trace =
      netOnly s0.trace ++ [(s0.now, .dial s0.nextIdx)] ++ attClose s0.now s0.nextIdx a ++
        attsTrace r t1 i1 o1 as ++
        [(tK, .sleep r)] ++ relTrace (tK + r) (attsOpen i1 o1 as) ++
        [(tK + r, .dial iK), (tEnd, .sockDropped iK), (tEnd, .returned true)] ∧
    cbOnly (runForever c s0).trace =
      cbOnly s0.trace ++ (attCb (off c) false s0.calls s0.now a).1 ++
        (attsCb (off c) r (attCb (off c) false s0.calls s0.now a).2 t1 as).1 ++
        finalCb (off c) (attsCb (off c) r (attCb (off c) false s0.calls s0.now a).2 t1 as).2 (tK + r) legal te body := by
  intro r t1 i1 o1 tK iK tEnd
  obtain ⟨ho, hn, hc⟩ := C13b.ka_lift c hto hiv s0
  rw [ho, hn, hc, ← C13b.netOnly_strip s0.trace, ← C13b.cbOnly_strip s0.trace]
  exact C15c.C15_resumes (off c) hq (acc_off c hto) rfl hr (P s0) a as legal te body hs0 rfl rfl hd hok hleg hk hfuel hfl
    hfuel2 hz

end WS.Props.C15d
