/-
  WS.Props.C19 — property theorems for C19 (proxy selection, no_proxy, CONNECT).
-/
import WS.Props.C18
namespace WS.Props.C19
open WS WS.Py WS.Lemmas.Py WS.Lemmas.NoProxy WS.Lemmas.Proxy
open WS.Model.NoProxy

/-- generated fact: `_is_subnet_address` reads `0 <= int(netmask) <= 32`
    (false of a tree that still has `< 32`, which does not recognise `a/32`). -/
theorem mask_bound : Gen.subnetMaskStrict = false ∧ Gen.subnetMaskBound = 32 := gen_mask_bound

/-- generated facts (T): the domain test is on a label boundary; `proxy_info` reads
    `http_no_proxy` unconditionally; an absent password becomes "" before `unquote`
    (each false of a tree without the corresponding repair). -/
theorem proxy_shape : Gen.noProxyLabelBoundary = true ∧ Gen.proxyInfoNoProxyAlways = true ∧
    Gen.envProxyPasswordOrEmpty = true := by decide

/-- **C19_cidr** — for every prefix length `p ≤ 32`, every network address and every host
    address (32-bit), the code's `ip & ((0xFFFFFFFF << (32-p)) & 0xFFFFFFFF) == net` says
    exactly: `net` has no host bits and `ip` agrees with it on the first `p` bits. -/
theorem C19_cidr (a p h : Nat) (hp : p ≤ 32) (hh : h < 2 ^ 32) :
    (h &&& ((0xFFFFFFFF <<< (32 - p)) &&& 0xFFFFFFFF) == a) = Spec.NoProxy.blockContains a p h :=
  cidr_mask a p h hh

example : Spec.NoProxy.blockContains 0x0A000001 32 0x0A000001 = true ∧
    Spec.NoProxy.blockContains 0x0A000000 8 0x0A636363 = true ∧
    Spec.NoProxy.blockContains 0x0A000001 8 0x0A000001 = false ∧
    Spec.NoProxy.blockContains 0 0 0xFFFFFFFF = true := by decide

/-- **C19_domain** — the repaired suffix test is the label-boundary test:
    `hostname == d.lstrip('.') or hostname.endswith('.' + d.lstrip('.'))` holds iff the labels
    of the named domain are a suffix of the labels of the host.  For *every* host and entry —
    the look-alike question (`badexample.com` vs `.example.com`) is settled universally. -/
theorem C19_domain (host d : Str) :
    (host == lstripChar '.' d || ('.' :: lstripChar '.' d).isSuffixOf host)
      = Spec.NoProxy.belongs host (lstripChar '.' d) :=
  belongs_eq host _

/-- **C19_exempt** — for all hosts and all lists, `_is_no_proxy_host` (list already chosen)
    returns normally and answers exactly the Spec's exemption predicate. -/
theorem C19_exempt (host : Str) (list : List Str) :
    isNoProxyHostL host list = .ok (Spec.NoProxy.exempt host list) := by
  obtain ⟨hboundary, -, -⟩ := proxy_shape
  unfold isNoProxyHostL Spec.NoProxy.exempt
  rw [hboundary]
  cases list.contains ['*']
  case true => rfl
  cases list.contains host
  case true => rfl
  simp only [Bool.false_eq_true, if_false, if_true, Bool.false_or, isIpAddress]
  cases hip : inetAton host with
  | some ip =>
    simp only [Option.isSome_some, if_true, ip_clause hip, bind, Except.bind, List.any_map,
      List.any_filter]
    congr 2
    funext e
    rw [(network_spec hip e).1, Function.comp_apply, id_eq]
    rcases Spec.NoProxy.cidr? e with _ | ⟨a, p⟩ <;> rfl
  | none =>
    simp only [Option.isSome_none, Bool.false_eq_true, if_false, List.any_filter, domainName?_eq,
      belongs_eq]
    congr 2
    funext e
    cases ['.'].isPrefixOf e <;> rfl

/-- non-vacuity: each clause decides some concrete case, and the look-alike host is not exempt. -/
example :
    (isNoProxyHostL "a.example.com".toList [".example.com".toList]).toOption = some true ∧
    (isNoProxyHostL "example.com".toList [".example.com".toList]).toOption = some true ∧
    (isNoProxyHostL "badexample.com".toList [".example.com".toList]).toOption = some false ∧
    (isNoProxyHostL "10.0.0.1".toList ["10.0.0.1/32".toList]).toOption = some true ∧
    (isNoProxyHostL "10.9.9.9".toList ["10.0.0.0/8".toList]).toOption = some true ∧
    (isNoProxyHostL "11.0.0.1".toList ["10.0.0.0/8".toList]).toOption = some false ∧
    (isNoProxyHostL "h".toList ["*".toList]).toOption = some true := by
  -- literals as character lists first: see `lit`
  repeat rw [String.toList_ofList]
  decide +kernel

/-- **C19_list** — the effective list is the option when non-empty, else the environment's
    (`no_proxy` before `NO_PROXY`), blanks removed, split on ",". -/
theorem C19_list (opt : List Str) (env : Env) :
    effectiveList opt env = Spec.NoProxy.noProxyList opt env := by
  unfold effectiveList Spec.NoProxy.noProxyList Spec.NoProxy.entries removeChar
  rw [envGetD_eq_envEither]
  cases opt with
  | cons a r => rfl
  | nil => cases (Spec.NoProxy.envEither env "no_proxy" "NO_PROXY").filter (· != ' ') <;> rfl

/-- **C19_exempt_env** — `_is_no_proxy_host(hostname, no_proxy)` with the list taken from the
    option or the environment: never fails, and answers the Spec's predicate. -/
theorem C19_exempt_env (host : Str) (opt : List Str) (env : Env) :
    isNoProxyHost host opt env =
      .ok (Spec.NoProxy.exempt host (Spec.NoProxy.noProxyList opt env)) := by
  unfold isNoProxyHost
  rw [C19_list, C19_exempt]

open WS.Model.Proxy in
/-- **C19_decision** — for all option combinations, environments and hosts, `proxy_info` +
    `get_proxy_info` decide exactly as documented: direct when exempt; else the option's proxy
    (PROXY error for port 0); else the URL in `http_proxy`/`https_proxy` (by scheme, lower case
    before upper case, blanks removed); else direct. -/
theorem C19_decision (v6ok : Str → Bool) (host : Str) (secure : Bool) (optHost : Str) (optPort : Nat)
    (optAuth : Option (Str × Str)) (optNoProxy : List Str) (env : Env) :
    getProxyInfo v6ok host secure (proxyInfo optHost optPort optAuth optNoProxy) env =
      match Spec.NoProxy.decision host secure optHost optPort optAuth optNoProxy env with
      | .direct => .ok direct
      | .viaOption h p a => .ok ⟨some h, some p, a⟩
      | .viaEnv v => envProxyParse v6ok v
      | .configError => .error .proxy := by
  unfold getProxyInfo Spec.NoProxy.decision
  have hnp : (proxyInfo optHost optPort optAuth optNoProxy).noProxy = optNoProxy := by
    cases optHost <;> rfl
  rw [hnp, C19_exempt_env]
  cases Spec.NoProxy.exempt host (Spec.NoProxy.noProxyList optNoProxy env)
  case true => rfl
  cases optHost with
  | cons c cs => cases optPort <;> rfl
  | nil =>
    have henv : removeChar ' ' (envGetD env (if secure then "https_proxy" else "http_proxy")
        (envGetD env (if secure then "HTTPS_PROXY" else "HTTP_PROXY") [])) =
        Spec.NoProxy.envProxy secure env := by
      rw [envGetD_eq_envEither]
      cases secure <;> rfl
    simp only [proxyInfo, List.isEmpty_nil, Bool.not_true, Bool.false_eq_true, if_false, henv]
    cases Spec.NoProxy.envProxy secure env <;> rfl

/-- the Spec's one-line summary agrees with its case analysis. -/
theorem C19_useProxy (host : Str) (secure : Bool) (optHost : Str) (optPort : Nat)
    (optAuth : Option (Str × Str)) (optNoProxy : List Str) (env : Env) :
    Spec.NoProxy.useProxy host secure optHost optNoProxy env = true ↔
      Spec.NoProxy.decision host secure optHost optPort optAuth optNoProxy env ≠ .direct := by
  unfold Spec.NoProxy.useProxy Spec.NoProxy.decision
  cases Spec.NoProxy.exempt host (Spec.NoProxy.noProxyList optNoProxy env)
  -- not exempt: with or without the option's host, a proxy in the environment, port 0
  · by_cases hh : optHost = [] <;> by_cases hv : Spec.NoProxy.envProxy secure env = [] <;>
      by_cases hp : optPort = 0 <;> simp [hh, hv, hp]
  · simp

open WS.Model.Proxy in
/-- **C19_connect_bytes** — for every host (without blank or CR), port and credentials, what
    `_tunnel` writes reads back under the Spec's grammar as
    `CONNECT host:port HTTP/1.1 CRLF Host: host:port CRLF [Proxy-Authorization: Basic b64 CRLF] CRLF`,
    and the base64 text decodes to exactly `user[:password]`. -/
theorem C19_connect_bytes (host : Str) (port : Nat) (auth : Option (Str × Str))
    (hh : ∀ c ∈ host, c ≠ ' ' ∧ c ≠ '\r') :
    Spec.NoProxy.parseConnect (tunnelRequest host port auth) =
      some ⟨host ++ ':' :: natStr port, host ++ ':' :: natStr port,
        (authStr? auth).map fun s => B64.encode (B64.asciiBytes s)⟩ ∧
    ∀ s, authStr? auth = some s → B64.decode (B64.encode (B64.asciiBytes s)) = some (B64.asciiBytes s) := by
  refine ⟨?_, fun s _ => WS.Lemmas.B64.decode_encode _⟩
  have hhp : ∀ c ∈ host ++ ':' :: natStr port, c ≠ ' ' ∧ c ≠ '\r' := by
    simp only [List.mem_append, List.mem_cons]
    rintro c (hc | rfl | hc)
    · exact hh c hc
    · decide
    · have := natStr_digits port c hc  -- a digit is neither ' ' nor CR
      constructor <;> rintro rfl <;> cases this
  rw [tunnelRequest_eq]
  refine parseConnect_lines _ hhp (fun h => (hhp _ h).2 rfl) fun b hb => ?_
  obtain ⟨s, _, rfl⟩ := Option.map_eq_some_iff.mp hb
  exact fun h => (WS.Lemmas.B64.encode_safe _ _ h).1 rfl

open WS.Model.Proxy in
/-- generated fact (T): the status `_tunnel` waits for, and the port used when the proxy URL
    names none. -/
theorem tunnel_consts : Gen.tunnelOkStatus = 200 ∧ Gen.proxyDefaultPort = 80 := by decide

open WS.Model.Proxy in
/-- **C19_gate** — for every reply (any bytes): `_tunnel` proceeds iff `read_headers` returns
    status 200; everything else — another status, a malformed head, end of stream, an internal
    error inside `read_headers` — is reported as PROXY. -/
theorem C19_gate (reply : Str) :
    (tunnel reply = .ok () ↔ readStatus reply = .ok (some 200)) ∧
    (∀ e, tunnel reply = .error e → e = .proxy) := by
  unfold tunnel
  rw [tunnel_consts.1]
  cases h : readStatus reply with
  | error e => simp
  | ok st =>
    by_cases hs : st = some 200 <;> simp [hs]

open WS.Model.Proxy in
/-- **C19_gate_connect** — a proxy reply that is not a 200 ends `connect()` with PROXY: the
    socket is closed, and nothing was written after the CONNECT request (no TLS, no handshake). -/
theorem C19_gate_connect (v6ok : Str → Bool) (url : Str) (timeout : Nat) (sockopt : List String)
    (p : ProxyInfo) (env : Env) (w : World) (t : Net.Target) (c : Choice) (o : Net.Outcome)
    (outs : List Net.Outcome) (i : Nat) (evs : List Net.Ev) (ph : Str)
    (hp : Model.Url.parseUrl v6ok url = .ok t) (hc : getProxyInfo v6ok t.host t.secure p env = .ok c)
    (ha : w.addrs = some (o :: outs))
    (hd : Model.OpenSocket.openSocket timeout sockopt (o :: outs) = (.ok i, evs))
    (hph : c.host = some ph) (hne : ph ≠ [])
    (hbad : readStatus w.proxyReply ≠ .ok (some 200)) :
    ∃ pp, connect v6ok url timeout sockopt p env w =
      (.error .proxy, CEv.resolve ph pp :: evs.map .sock
        ++ [.send i (tunnelRequest t.host t.port c.auth)] ++ [.sock (.close i)]) := by
  obtain ⟨pp, hat⟩ := addrTarget_via hph hne t.host t.port
  refine ⟨pp, ?_⟩
  have hg := C19_gate w.proxyReply
  rw [connect_ok_eq hp hc ha hd hat]
  cases ht : tunnel w.proxyReply with
  | ok u => exact absurd (hg.1.mp ht) hbad
  | error e => simp [hg.2 e ht]

open WS.Model.Proxy in
/-- **C19_order** — through a proxy that answers 200: the proxy's address is what is resolved
    and dialled, the CONNECT request (naming the origin's host and port) is the first thing
    written, TLS (for wss) comes after it and is addressed to the origin's host name, and the
    handshake target handed back is the origin (host, port, resource). -/
theorem C19_order (v6ok : Str → Bool) (url : Str) (timeout : Nat) (sockopt : List String)
    (p : ProxyInfo) (env : Env) (w : World) (t : Net.Target) (c : Choice) (o : Net.Outcome)
    (outs : List Net.Outcome) (i : Nat) (evs : List Net.Ev) (ph : Str)
    (hp : Model.Url.parseUrl v6ok url = .ok t) (hc : getProxyInfo v6ok t.host t.secure p env = .ok c)
    (ha : w.addrs = some (o :: outs))
    (hd : Model.OpenSocket.openSocket timeout sockopt (o :: outs) = (.ok i, evs))
    (hph : c.host = some ph) (hne : ph ≠ [])
    (hok : readStatus w.proxyReply = .ok (some 200)) :
    ∃ pp, connect v6ok url timeout sockopt p env w =
      (.ok (i, t), CEv.resolve ph pp :: evs.map .sock
        ++ [.send i (tunnelRequest t.host t.port c.auth)]
        ++ (if t.secure then [.tls i t.host] else [])) := by
  obtain ⟨pp, hat⟩ := addrTarget_via hph hne t.host t.port
  refine ⟨pp, ?_⟩
  rw [connect_ok_eq hp hc ha hd hat]
  simp [(C19_gate w.proxyReply).1.mpr hok]

open WS.Model.Proxy in
/-- **C19_direct** — when the decision is "direct", the URL's own host and port are resolved,
    nothing is written before the handshake, TLS (wss) is addressed to the URL's host. -/
theorem C19_direct (v6ok : Str → Bool) (url : Str) (timeout : Nat) (sockopt : List String)
    (p : ProxyInfo) (env : Env) (w : World) (t : Net.Target) (o : Net.Outcome)
    (outs : List Net.Outcome) (i : Nat) (evs : List Net.Ev)
    (hp : Model.Url.parseUrl v6ok url = .ok t) (hc : getProxyInfo v6ok t.host t.secure p env = .ok direct)
    (ha : w.addrs = some (o :: outs))
    (hd : Model.OpenSocket.openSocket timeout sockopt (o :: outs) = (.ok i, evs)) :
    connect v6ok url timeout sockopt p env w =
      (.ok (i, t), CEv.resolve t.host t.port :: evs.map .sock
        ++ (if t.secure then [.tls i t.host] else [])) :=
  C18.C18_target v6ok url timeout sockopt p env w t o outs i evs hp hc ha hd

end WS.Props.C19
