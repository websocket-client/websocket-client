/-
  WS.Props.C15b — `C15_retry` with the ping thread running (any interval ≥ 0, no ping timeout, every schedule): lifted through
  `C13b.ka_lift`.
-/
import WS.Props.C13b
import WS.Props.C15
namespace WS.Props.C15b
open WS WS.Model.App WS.Lemmas.App WS.Lemmas.App.KA WS.Spec.AppTrace

/-- **C15_retry_keepalive** — `C15_retry` with keepalive on (no ping timeout), every schedule of the ping thread: the same
    network skeleton (first attempt, `sleep r` before each further attempt exactly `r` later, every failed socket released
    before the next dial, no dial after the server's close frame, return True) and the same callbacks (the first failure
    reported once, nothing during the retries, on_reconnect / on_open first on the new connection, the traffic delivered as in
    C13, on_close once at the end with the close frame's code and reason). -/
theorem C15_retry_keepalive (c : Cfg) (hq : Quiet c) (hto : c.to = none) (hiv : 0 ≤ c.iv)
    (hr : c.reconnect ≠ 0) (s0 : St) (d : Dial) (ds : List Dial) (legal : List TEv) (te : TEv) (body : Bytes)
    (hs0 : s0.sock = none)
    (hd : s0.dials = (d :: ds) ++ [.established (legal ++ [te])])
    (hfails : ∀ x ∈ d :: ds, isFail x = true)
    (hleg : ∀ e ∈ legal, isLegal e.ev = true) (hk : te.ev = .close body)
    (hfuel : need0 (selectTimeout c) (legal ++ [te]) + 1 ≤ c.fuel) (hfuel2 : ds.length + 2 ≤ c.fuel)
    (hz : endTime (s0.now + (ds.length + 1) * c.reconnect) (legal ++ [te]) ≤ c.horizon) :
    let r := c.reconnect
    let tK := s0.now + ds.length * r
    let iK := s0.nextIdx + 1 + ds.length
    let tEnd := endTime (tK + r) (legal ++ [te])
    (runForeverO c s0).2 = .returned true ∧
    netOnly (runForever c s0).trace =
      netOnly s0.trace ++ [(s0.now, .dial s0.nextIdx), (s0.now, .sockClosed s0.nextIdx)] ++
        retryTrace r s0.now (s0.nextIdx + 1) ds.length ++
        [(tK, .sleep r), (tK + r, .dial iK), (tEnd, .sockDropped iK), (tEnd, .returned true)] ∧
    ∃ calls1 calls2, cbOnly (runForever c s0).trace =
      cbOnly s0.trace ++ cbTrace c s0.calls s0.now .onError [.exn (dialExn d)] ++
        expectedConn c.has c.plan calls1 (tK + r) (openCb c true) (legal ++ [te]) ++
        cbTrace c calls2 tEnd .onClose (closeArgs c (some body)) := by
  intro r tK iK tEnd
  obtain ⟨ho, hn, hc⟩ := C13b.ka_lift c hto hiv s0
  rw [ho, hn, hc, ← C13b.netOnly_strip s0.trace, ← C13b.cbOnly_strip s0.trace]
  exact C15.C15_retry (off c) hq (acc_off c hto) rfl hr (P s0) d ds legal te body hs0 rfl hd hfails hleg hk hfuel hfuel2 hz

/-- generated fact (F18's repair): the FIRST statement of `setSock` is
    `if reconnecting and not self.keep_running: teardown(); return` — a reconnect that comes due after the application has
    closed is not made.  A seeded change that removes or reshapes it breaks this obligation. -/
theorem reconnect_guard_in_source : Gen.appReconnectGuard = true := by decide

/-- in the model's worlds the guard at the head of `setSock` (`reconnect_guard_in_source`) is never taken: `keep_running` is
    tested at the head of the reconnect loop and neither the `sleep` event nor the wait (the ping thread may run in it)
    changes it — only a close() from ANOTHER thread during the wait can, which is what the real runs with a second thread
    cover (`closer-in-the-gap` scenarios). -/
theorem C15_wait_keeps_running (c : Cfg) (s : St) (t : Nat) :
    (waitUntil c (s.emit (.sleep c.reconnect)) t).1.keepRunning = s.keepRunning := by
  rw [(frame_waitUntil c _ t).kr]
  rfl

/-- **reconnectLoopG_eq** — the reconnect loop over `setSock` WITH the guard the code now has is, in every world of the model,
    the loop over `setSock` without it: the model the theorems are about is the code's behaviour (by induction on the
    iterations; the state handed to `setSock` has `keep_running` on because the head of the loop tested it and the wait leaves it
    alone). -/
theorem reconnectLoopG_eq (c : Cfg) : ∀ (n : Nat) (s : St), reconnectLoopG c n s = reconnectLoop c n s := by
  intro n
  induction n with
  | zero =>
    intro s
    rfl
  | succ m ih =>
    intro s
    rw [reconnectLoopG, reconnectLoop, funext ih]
    cases hk : s.keepRunning with
    | false => rfl
    | true => simp [setSockG, C15_wait_keeps_running, hk]

/-- the first connection of a run is not a reconnection: the guard at the head of `setSock` does not apply to it -/
theorem setSockG_first (c : Cfg) (s : St) : setSockG c s false = setSock c s false := by
  unfold setSockG
  simp

end WS.Props.C15b
