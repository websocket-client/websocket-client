/-
  WS.Props.C14c — the one-connection theorems with the ping thread running (any interval ≥ 0, no ping
  timeout, every schedule of the ping thread): corollaries of `C13b.C13_keepalive_transparent`.
-/
import WS.Props.C13b
import WS.Props.C14
namespace WS.Props.C14c
open WS WS.Model.App WS.Lemmas.App WS.Lemmas.App.KA WS.Spec.AppTrace

/-- **C14_terminates_keepalive** — `C14_terminates` with keepalive on (no ping timeout): one connection carrying any legal
    traffic and ended by the server's close frame, end of stream, a reset or a protocol / payload error, every schedule of the
    ping thread: run_forever returns — True after an error, False after the server's close frame. -/
theorem C14_terminates_keepalive (c : Cfg) (hq : Quiet c) (hto : c.to = none) (hiv : 0 ≤ c.iv)
    (hrc : c.reconnect = 0) (s0 : St) (legal : List TEv) (te : TEv)
    (hs : s0.sock = none)
    (hd : s0.dials = [.established (legal ++ [te])])
    (hleg : ∀ e ∈ legal, isLegal e.ev = true) (hterm : endsBy te)
    (hfuel : need0 (selectTimeout c) (legal ++ [te]) + 1 ≤ c.fuel)
    (hz : endTime s0.now (legal ++ [te]) + secs Gen.closeTimeoutDefault ≤ c.horizon) :
    (runForeverO c s0).2 = .returned (match te.ev with | .close _ => false | _ => true) := by
  rw [(C13b.C13_keepalive_transparent c hto hiv s0).2.1]
  exact C14.C14_terminates (off c) hq (acc_off c hto) rfl hrc (P s0) legal te hs rfl rfl hd hleg hterm hfuel hz

/-- **C14_close_args_keepalive** — `C14_close_args` with keepalive on: the run, without the ping thread's own events, ends
    with the close reply, the release of the transport, on_close(code, reason) and the return of False, all at the tick the
    server's close frame arrived. -/
theorem C14_close_args_keepalive (c : Cfg) (hq : Quiet c) (hto : c.to = none) (hiv : 0 ≤ c.iv)
    (hrc : c.reconnect = 0) (s0 : St) (legal : List TEv) (te : TEv) (body : Bytes)
    (hs : s0.sock = none)
    (hd : s0.dials = [.established (legal ++ [te])])
    (hleg : ∀ e ∈ legal, isLegal e.ev = true) (hk : te.ev = .close body) (hoc : c.has .onClose = true)
    (hfuel : need0 (selectTimeout c) (legal ++ [te]) + 1 ≤ c.fuel)
    (hz : endTime s0.now (legal ++ [te]) ≤ c.horizon) :
    ∃ pre t, strip (runForever c s0).trace = pre ++
        [(t, .wrote Gen.opcodeClose (beN 2 Gen.statusNormal)), (t, .sockDropped s0.nextIdx),
         (t, .cb .onClose (Spec.AppTrace.closeArgsOf body)), (t, .returned false)] ∧
      t = endTime s0.now (legal ++ [te]) := by
  rw [(C13b.C13_keepalive_transparent c hto hiv s0).1]
  exact C14.C14_close_args (off c) hq (acc_off c hto) rfl hrc (P s0) legal te body hs rfl rfl hd hleg hk hoc hfuel hz

/-- **C14_close_args_eof_keepalive** — `C14_close_args_eof` with keepalive on: a connection lost by end of stream — the
    transport is closed, the loss reported once to on_error, on_close(None, None) called, True returned, all at the same
    tick, whatever the ping thread did in between. -/
theorem C14_close_args_eof_keepalive (c : Cfg) (hq : Quiet c) (hto : c.to = none) (hiv : 0 ≤ c.iv)
    (hrc : c.reconnect = 0) (s0 : St) (legal : List TEv) (te : TEv)
    (hs : s0.sock = none)
    (hd : s0.dials = [.established (legal ++ [te])])
    (hleg : ∀ e ∈ legal, isLegal e.ev = true) (hk : te.ev = .eof) (hoc : c.has .onClose = true)
    (hoe : c.has .onError = true)
    (hfuel : need0 (selectTimeout c) (legal ++ [te]) + 1 ≤ c.fuel)
    (hz : endTime s0.now (legal ++ [te]) ≤ c.horizon) :
    ∃ pre t, strip (runForever c s0).trace = pre ++
        [(t, .sockClosed s0.nextIdx), (t, .cb .onError [.exn .closed]), (t, .cb .onClose [.none, .none]),
         (t, .returned true)] := by
  rw [(C13b.C13_keepalive_transparent c hto hiv s0).1]
  exact C14.C14_close_args_eof (off c) hq (acc_off c hto) rfl hrc (P s0) legal te hs rfl rfl hd hleg hk hoc hoe hfuel hz

end WS.Props.C14c
