/-
  WS.Props.C11 — TLS peers are authenticated by default; only explicit options relax it.
  What Lean decides is the *decision logic* of `_ssl_socket` / `_wrap_sni_socket` and the ordering
  dial → [CONNECT] → wrap → request; that CPython/OpenSSL enforce `verify_mode` and
  `check_hostname` is trusted (exercised by the loopback-TLS support run of the thorough tier).

  Model: WS.Model.Tls, WS.Model.Connect.   Spec: WS.Spec.TlsPolicy (from the documentation).
-/
import WS.Spec.TlsPolicy
import WS.Model.Tls
import WS.Model.Connect
import WS.Lemmas.TlsOrder
namespace WS.Props.C11
open WS WS.PyH2 WS.H2 WS.Model.Http WS.Model.Tls WS.Model.Connect
open WS.Spec.Tls WS.Lemmas.Connect WS.Lemmas.TlsOrder

/-- generated facts (T): the defaults and the shape of the selection in `_wrap_sni_socket` /
    `_ssl_socket` / `_http.connect` as read from the source on this run. A flipped default
    (certificate required, host name checked), a changed comparison or a wrap that is not
    conditioned on `is_secure` makes this theorem — and everything below — fail to compile. -/
theorem generated_facts :
    Gen.sslDefaultCertReqs = "ssl.CERT_REQUIRED" ∧ Gen.sslDefaultCheckHostname = true ∧
    Gen.h2WrapLoadCertDefault = "ssl.CERT_NONE" ∧ Gen.h2WrapCondCertDefault = "ssl.CERT_NONE" ∧
    Gen.h2WrapCondCheckDefault = false ∧ Gen.h2WrapBodyCheck = false ∧
    Gen.h2WrapBodyVerify = "ssl.CERT_NONE" ∧ Gen.h2WrapElseCheckDefault = true ∧
    Gen.h2WrapElseCertDefault = "ssl.CERT_REQUIRED" ∧ Gen.h2WrapSniIsHostname = true ∧
    Gen.h2WrapIffSecure = true :=
  ⟨rfl, rfl, rfl, rfl, rfl, rfl, rfl, rfl, rfl, rfl, rfl⟩

/-- the documented policy as a function of the five things it reads. -/
def policyOf (cx : Option Nat) (v : CertReqs) (ch : Option Bool) (ca : CaSource) (nm : Str) : Option Policy :=
  match cx with
  | some c => some (.user c nm)
  | none =>
    match v with
    | .none => if ch = some true then none else some (.fresh .none false .unset nm)
    | v => some (.fresh v (ch.getD true) ca nm)

theorem tlsPolicy_eq (o : SslOpt) (env : TlsEnv) (host : Str) :
    tlsPolicy o env host =
      policyOf o.context (o.certReqs.getD .required) o.checkHostname (caSource o env) (peerName o host) := rfl

/-- `_wrap_sni_socket` sets `check_hostname` and then `verify_mode` on every path: that fixes both, whatever the context
    started with (which is why `ssl_version` cannot relax anything); only CERT_NONE with a name check is refused. -/
theorem setVerify_setCheck (c : PyCtx) (b : Bool) (m : CertReqs) :
    setVerify (setCheck c b) m = if m = .none ∧ b = true then .error .valueError else .ok ⟨m, b, c.ca⟩ := by
  unfold setCheck
  split
  · next h =>
    rw [h.1]
    rfl
  · rfl

/-- `_wrap_sni_socket` on a dict in which `cert_reqs` is set, as `_ssl_socket` makes it. -/
private theorem wrapSni_eq (v : CertReqs) (ch : Option Bool) (caf cap : Option Str) (cx : Option Nat) (lg : Bool)
    (nm : Str) :
    wrapSni ⟨some v, ch, caf, cap, cx, lg⟩ nm =
      (policyOf cx v ch (if (truthy caf).isSome ∨ (truthy cap).isSome then .locations caf cap else .default) nm).elim
        (.error .valueError) .ok := by
  cases cx with
  | some c => rfl
  | none =>
    have hca : (PyCtx.freshOf lg).ca = .unset := by cases lg <;> rfl
    -- `cert_reqs` is set, so of the defaults only the mode the CERT_NONE branch assigns is read
    have hbody : certOf Gen.h2WrapBodyVerify = .none := by simp [certOf, Gen.h2WrapBodyVerify]
    unfold wrapSni
    simp only [hbody, Gen.h2WrapCondCheckDefault, Gen.h2WrapBodyCheck, Gen.h2WrapElseCheckDefault, Option.getD_some,
      setVerify_setCheck, policyOf]
    cases v
    · rcases ch with _ | _ | _ <;> simp [hca]  -- CERT_NONE
    · simp [apply_ite PyCtx.ca]  -- CERT_OPTIONAL
    · simp [apply_ite PyCtx.ca]  -- CERT_REQUIRED

private theorem sslSocket_eq (o : SslOpt) (env : TlsEnv) (host : Str) (hfd : ¬ (env.isFile = true ∧ env.isDir = true)) :
    sslSocket o env host =
      wrapSni ⟨some (o.certReqs.getD .required), o.checkHostname, caFile o env, caPath o env, o.context, o.legacy⟩
        (peerName o host) := by
  -- the Spec's `given` and the model's `truthy` are one function; `certOf` of the default is evaluated here, by `simp`:
  -- left to `congr`, the two string literals are compared by the kernel, slowly
  simp only [sslSocket, caFile, caPath, certOf, Gen.sslDefaultCertReqs, show @given = @truthy from rfl]
  generalize truthy env.bundle = t
  -- what is left to compare is `ca_certs` and `ca_cert_path`
  congr 2
  · cases o.caCerts <;> cases env.isFile <;> cases t <;> rfl
  · cases hd : env.isDir with
    | false =>
      rw [Bool.and_false, Bool.false_and]
      cases o.caCertPath <;> rfl
    | true =>
      rw [Bool.eq_false_iff.mpr fun hf => hfd ⟨hf, hd⟩]
      cases o.caCertPath <;> cases t <;> rfl

/-- **C11_policy** (Model ⊨ Spec, all option combinations): for every `sslopt`, every value of
    `WEBSOCKET_CLIENT_CA_BUNDLE` (file, directory, neither) and every URL host, the context
    `_ssl_socket` builds and the name it passes to `wrap_socket` are exactly the documented policy;
    the one refused combination (CERT_NONE together with check_hostname=True) raises before anything
    is wrapped or sent. (A path cannot be a file and a directory at once.) -/
theorem C11_policy (o : SslOpt) (env : TlsEnv) (host : Str)
    (hfd : ¬ (env.isFile = true ∧ env.isDir = true)) :
    sslSocket o env host =
      match Spec.Tls.tlsPolicy o env host with
      | some p => .ok p
      | none => .error .valueError := by
  rw [sslSocket_eq o env host hfd, wrapSni_eq]
  show (tlsPolicy o env host).elim _ _ = _
  cases tlsPolicy o env host <;> rfl

theorem policy_of_ok {o : SslOpt} {env : TlsEnv} {host : Str} {p : Policy}
    (hfd : ¬ (env.isFile = true ∧ env.isDir = true)) (h : sslSocket o env host = .ok p) :
    tlsPolicy o env host = some p := by
  rw [C11_policy o env host hfd] at h
  split at h <;> cases h
  assumption

/-- **C11_default** — with no `sslopt` at all: the chain is verified (CERT_REQUIRED), the host name
    is checked, the name checked and sent as SNI is the URL's host, and the trust store is the
    system's (or the bundle `WEBSOCKET_CLIENT_CA_BUNDLE` names). -/
theorem C11_default (env : TlsEnv) (host : Str) (hfd : ¬ (env.isFile = true ∧ env.isDir = true)) :
    sslSocket {} env host = .ok (.fresh .required true (caSource {} env) host) ∧
    sslSocket {} {} host = .ok (.fresh .required true .default host) :=
  ⟨C11_policy {} env host hfd, C11_policy {} {} host (by decide)⟩

private theorem policyOf_fresh {v : CertReqs} (hv : v ≠ .none) (ch : Option Bool) (ca : CaSource) (nm : Str) :
    policyOf none v ch ca nm = some (.fresh v (ch.getD true) ca nm) := by
  cases v
  · exact absurd rfl hv
  · rfl
  · rfl

theorem policyOf_proj {cx : Option Nat} {v : CertReqs} {ch : Option Bool} {ca ca' : CaSource} {nm nm' : Str}
    {a b : Option Policy} (ha : a = policyOf cx v ch ca nm) (hb : b = policyOf cx v ch ca' nm') :
    a.map Policy.verify = b.map Policy.verify ∧ a.map Policy.check = b.map Policy.check ∧
    a.map Policy.userCtx = b.map Policy.userCtx ∧ (ca = ca' → a.map Policy.ca = b.map Policy.ca) ∧
    (nm = nm' → a.map Policy.sni = b.map Policy.sni) ∧ a.map Policy.sni = b.map fun _ => nm := by
  subst ha hb
  unfold policyOf
  split
  · exact ⟨rfl, rfl, rfl, fun _ => rfl, congrArg _, rfl⟩  -- the caller's context
  split
  · split
    · exact ⟨rfl, rfl, rfl, fun _ => rfl, fun _ => rfl, rfl⟩  -- CERT_NONE and a name check: refused
    · exact ⟨rfl, rfl, rfl, fun _ => rfl, congrArg _, rfl⟩  -- CERT_NONE
  · exact ⟨rfl, rfl, rfl, fun h => h ▸ rfl, congrArg _, rfl⟩  -- a verifying mode

/-- **C11_only_own_check_ca** — the first of the five `C11_only_own_check_*` (`_ca`, `_sni`, `_hostname`, `_cert`,
    `_context`: every option relaxes only its own check): a custom CA file, CA directory or the environment bundle
    only change the trust store: verification mode, host-name check, the name checked and the kind of context are
    what they are without them. -/
theorem C11_only_own_check_ca (o : SslOpt) (env env' : TlsEnv) (host : Str) (caf cap : Option Str) :
    let a := tlsPolicy { o with caCerts := caf, caCertPath := cap } env' host
    let b := tlsPolicy o env host
    a.map Policy.verify = b.map Policy.verify ∧ a.map Policy.check = b.map Policy.check ∧
    a.map Policy.sni = b.map Policy.sni ∧ a.map Policy.userCtx = b.map Policy.userCtx := by
  obtain ⟨hverify, hcheck, hctx, -, hsni, -⟩ :=
    policyOf_proj (tlsPolicy_eq { o with caCerts := caf, caCertPath := cap } env' host) (tlsPolicy_eq o env host)
  exact ⟨hverify, hcheck, hsni rfl, hctx⟩

/-- (2) — `server_hostname` only changes the name that is checked / sent as SNI. -/
theorem C11_only_own_check_sni (o : SslOpt) (env : TlsEnv) (host : Str) (sh : Option Str) :
    let a := tlsPolicy { o with serverHostname := sh } env host
    let b := tlsPolicy o env host
    a.map Policy.verify = b.map Policy.verify ∧ a.map Policy.check = b.map Policy.check ∧
    a.map Policy.ca = b.map Policy.ca ∧ a.map Policy.userCtx = b.map Policy.userCtx ∧
    (∀ s, given sh = some s → a.map Policy.sni = b.map (fun _ => s)) := by
  obtain ⟨hverify, hcheck, hctx, hca, -, hsni⟩ :=
    policyOf_proj (tlsPolicy_eq { o with serverHostname := sh } env host) (tlsPolicy_eq o env host)
  refine ⟨hverify, hcheck, hca rfl, hctx, fun s hs => ?_⟩
  have hn : peerName { o with serverHostname := sh } host = s := by simp only [peerName, hs]
  exact hn ▸ hsni

/-- (3) — `check_hostname = False` switches the host-name check off and nothing else: the chain is
    still verified with the same mode against the same trust store. -/
theorem C11_only_own_check_hostname (o : SslOpt) (env : TlsEnv) (host : Str)
    (hctx : o.context = none) (hv : o.certReqs ≠ some .none) :
    tlsPolicy { o with checkHostname := some false } env host
      = some (.fresh (o.certReqs.getD .required) false (caSource o env) (peerName o host)) ∧
    tlsPolicy { o with checkHostname := none } env host
      = some (.fresh (o.certReqs.getD .required) true (caSource o env) (peerName o host)) := by
  have hv' : o.certReqs.getD .required ≠ .none := fun h =>
    (Option.getD_eq_iff.mp h).elim hv fun h' => nomatch h'.2
  simp only [tlsPolicy_eq, hctx]
  exact ⟨policyOf_fresh hv' .., policyOf_fresh hv' ..⟩

/-- (4) — `cert_reqs = CERT_NONE` switches verification off (no chain, hence no name check); asking
    for a name check on an unverified chain is refused; CERT_OPTIONAL / CERT_REQUIRED keep the
    name check unless it is switched off explicitly. -/
theorem C11_only_own_check_cert (o : SslOpt) (env : TlsEnv) (host : Str) (hctx : o.context = none) :
    (o.checkHostname ≠ some true →
      tlsPolicy { o with certReqs := some .none } env host = some (.fresh .none false .unset (peerName o host))) ∧
    (o.checkHostname = some true → tlsPolicy { o with certReqs := some .none } env host = none) ∧
    (∀ v, v ≠ CertReqs.none →
      tlsPolicy { o with certReqs := some v } env host
        = some (.fresh v (o.checkHostname.getD true) (caSource o env) (peerName o host))) := by
  simp only [tlsPolicy_eq, hctx]
  exact ⟨fun h => if_neg h, fun h => if_pos h, fun v hv => policyOf_fresh hv ..⟩

/-- (5) — a caller-made context is used as it is; only the name passed to `wrap_socket` is chosen. -/
theorem C11_only_own_check_context (o : SslOpt) (env : TlsEnv) (host : Str) (c : Nat)
    (h : o.context = some c) : tlsPolicy o env host = some (.user c (peerName o host)) := by
  rw [tlsPolicy_eq, h]
  rfl

/-- **C11_wrap_iff_wss** — `_http.connect` wraps the transport exactly for a secure URL: a wrap event
    implies `is_secure`; a successful call for a secure URL contains one successful wrap with the
    computed (= documented, C11_policy) policy after the dial and the proxy plaintext and before
    anything else; for a `ws://` URL no wrap event occurs at all. -/
theorem C11_wrap_iff_wss (env : Env) (d : Dial) (i : Nat) (url : Str)
    (res : Except HExn (Sock × UrlParts)) (ev : List Ev) (u : UrlParts)
    (h : httpConnect env d i url none = (res, ev)) (hu : env.parseUrl url = .ok u) :
    ((∃ j p ok, Ev.wrap j p ok ∈ ev) → u.secure = true) ∧
    (∀ s u', res = .ok (s, u') → u' = u ∧
      ∃ ev1, (∀ e ∈ ev1, ∃ x, e = Ev.plain i x) ∧
        ((u.secure = true ∧ ∃ p, sslSocket env.sslopt env.tlsEnv u.host = .ok p ∧
            ev = Ev.dial i u :: ev1 ++ [Ev.wrap i p true]) ∨
         (u.secure = false ∧ ev = Ev.dial i u :: ev1))) := by
  have hd := httpConnect_cases h
  rw [hu] at hd
  cases hd with
  | early e => exact ⟨fun ⟨_, _, _, hm⟩ => (nomatch hm), fun _ _ => nofun⟩
  | refused e io => exact ⟨fun ⟨_, _, _, hm⟩ => by simp at hm, fun _ _ => nofun⟩
  | wrapFailed e io p hsec => exact ⟨fun _ => hsec, fun _ _ => nofun⟩
  | plain s io hns =>
    refine ⟨fun ⟨_, _, _, hm⟩ => by simp at hm, ?_⟩
    rintro _ _ ⟨⟩
    exact ⟨rfl, _, List.forall_mem_map.mpr fun x _ => ⟨x, rfl⟩, .inr ⟨hns, rfl⟩⟩
  | wrapped s io p hsec hpol =>
    refine ⟨fun _ => hsec, ?_⟩
    rintro _ _ ⟨⟩
    exact ⟨rfl, _, List.forall_mem_map.mpr fun x _ => ⟨x, rfl⟩, .inl ⟨hsec, p, hpol, rfl⟩⟩

/-- **C11_before_data_exec** — the ordering clause as an executable check (the form the oracle applies to the
    timeline of the *real* code): the Spec's monitor `orderedB` accepts every trace of the model. -/
theorem C11_before_data_exec (env : Env) (world : Nat → Dial) (url : Str) (o : Opts) (limit : Option Nat)
    (userSock : Option Sock) (hfd : ¬ (env.tlsEnv.isFile = true ∧ env.tlsEnv.isDir = true)) :
    orderedB (fun host => tlsPolicy env.sslopt env.tlsEnv host) []
      (connect env world url o limit userSock {}).trace = true :=
  (connect_post env world url o limit userSock (obj := {}) rfl rfl).reach.ordered fun _ _ => policy_of_ok hfd

/-- **C11_before_data** — in every trace of `WebSocket.connect` (any world, any options, redirects,
    failures at any point, directly or through a proxy tunnel), for every write of handshake bytes
    on a transport `j` that was dialled for a secure URL with parts `u`, a successful wrap of `j`
    precedes the write, and its policy is the documented one for `u.host`.  (A socket supplied by
    the caller is not dialled by the library and is used as given.) -/
theorem C11_before_data (env : Env) (world : Nat → Dial) (url : Str) (o : Opts) (limit : Option Nat)
    (userSock : Option Sock) (hfd : ¬ (env.tlsEnv.isFile = true ∧ env.tlsEnv.isDir = true))
    (pre post : List Ev) (j : Nat) (bs : Bytes)
    (hsplit : (connect env world url o limit userSock {}).trace = pre ++ Ev.io j (.write bs) :: post)
    (u : UrlParts) (hdial : Ev.dial j u ∈ pre) (hsec : u.secure = true) :
    ∃ p, Ev.wrap j p true ∈ pre ∧ tlsPolicy env.sslopt env.tlsEnv u.host = some p := by
  have hord := C11_before_data_exec env world url o limit userSock hfd
  rw [hsplit, orderedB_append, orderedB, Bool.and_eq_true, Bool.and_eq_true] at hord
  exact okAtB_write.mp hord.2.1 u hdial hsec

private def demoEnv (secure : Bool) (tunnel : Bool) : Env :=
  { acceptOf := fun _ => "x".toList
    parseUrl := fun _ => .ok ⟨"h".toList, 443, "/".toList, secure⟩
    proxy := fun _ => { tunnel := tunnel }
    sslopt := {}
    tlsEnv := {} }

private def bytesOf (s : String) : List HEv := (encodeUtf8 s.toList).map HEv.byte

private def peer (tunnel : Bool) : Dial :=
  { sock := ⟨(if tunnel then bytesOf "HTTP/1.1 200 OK\r\n\r\n" else []) ++
      bytesOf "HTTP/1.1 101 OK\r\nUpgrade: websocket\r\nConnection: Upgrade\r\nSec-WebSocket-Accept: x\r\n\r\n",
      .eof, none⟩ }

/-- non-vacuity: a wss connect through a proxy tunnel — CONNECT in the clear, then the wrap, then the
    request; a ws connect is never wrapped. -/
example :
    ((connect (demoEnv true true) (fun _ => peer true) "wss://h/".toList {} none none {}).trace.map
        (fun e => match e with
          | .dial _ _ => 0 | .plain _ (.write _) => 1 | .plain _ _ => 2 | .wrap _ _ true => 3
          | .io _ (.write _) => 4 | .io _ _ => 5 | _ => 6)).eraseDups = [0, 1, 2, 3, 4, 5] ∧
    (connect (demoEnv true true) (fun _ => peer true) "wss://h/".toList {} none none {}).res = .ok () ∧
    (connect (demoEnv false false) (fun _ => peer false) "ws://h/".toList {} none none {}).trace.all
        (fun e => match e with | .wrap _ _ _ => false | _ => true) = true := by
  -- literals as character lists first: see `lit`
  unfold peer bytesOf
  repeat rw [String.toList_ofList]
  decide +kernel

theorem sslSocket_legacy (o : SslOpt) (env : TlsEnv) (host : Str) (lg : Bool) :
    sslSocket { o with legacy := lg } env host = sslSocket o env host := by
  -- the right side of `wrapSni_eq` does not mention `legacy`
  simp only [sslSocket, effectiveName, wrapSni_eq]

/-- **C11_ssl_version_cannot_relax** — the `ssl_version` option (which protocol constant the context is created for)
    is NOT one of the options that may relax authentication: although a context made for a legacy constant starts with
    verification switched off (`PyCtx.freshOf true` = CERT_NONE, no host-name check), `_ssl_socket` sets BOTH attributes
    explicitly on every path, so the policy it ends with — and the refusal of CERT_NONE + check_hostname — is the same
    for every `sslopt`, environment and host whichever constant was asked for. -/
theorem C11_ssl_version_cannot_relax (o : SslOpt) (env : TlsEnv) (host : Str) (lg : Bool)
    (hfd : ¬ (env.isFile = true ∧ env.isDir = true)) :
    sslSocket { o with legacy := lg } env host = sslSocket o env host := by
  have _ := hfd -- not needed
  exact sslSocket_legacy o env host lg

/-- the initial states really differ (so the theorem above is not vacuous) -/
example : PyCtx.freshOf true ≠ PyCtx.freshOf false := by decide

end WS.Props.C11
