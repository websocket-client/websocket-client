/-
  WS.Props.C07 — every ping is answered exactly once with a pong carrying the same payload.
-/
import WS.Props.C01
import WS.Lemmas.Prefix
namespace WS.Props.C07
open WS WS.Spec WS.Model WS.Lemmas.RecvStrict WS.Lemmas.Parser WS.Lemmas.Stream WS.Lemmas.Loop

/-- **C07_pong_bytes** — the frame `pong(p)` formats for a ping payload `p` of at most 125 bytes is, for
    every `p` and every 4-byte key, read by the RFC decoder as FIN=1, opcode 10, MASK set, 7-bit length,
    payload exactly `p`, with nothing left over (instance of `C01_wire`). -/
theorem C07_pong_bytes (p key : Bytes) (hk : key.length = 4) (hp : p.length ≤ 125) :
    ∃ w, format (createFrame p Gen.opcodePong) key = .ok w ∧
      decode w = .frame { fin := 1, rsv1 := 0, rsv2 := 0, rsv3 := 0, opcode := 10, masked := true,
                          key := key, lenForm := 7, payload := p } [] := by
  obtain ⟨w, h1, h2, _⟩ := WS.Props.C01.C01_wire 1 Gen.opcodePong key p (by omega) (by decide) hk (by omega)
  exact ⟨w, h1, (if_pos hp : minimalForm p.length = 7) ▸ h2⟩

/-- **C07_trace** — along the frames of any message (pings and pongs at any position: before, between and
    inside the fragments), the bytes the receive call writes are EXACTLY the pongs for the pings, one each,
    in the order the pings arrived, each formatted with the next key from the key source — and nothing is
    written for pongs or data frames. (Each pong is written inside the loop iteration that read its ping,
    before `recv_frame` is called again: `Fragments.turn_ctrl`.) -/
theorem C07_trace (fs : List Frame) (hm : MsgFrames none fs)
    (c : Conn) (ws : List WireFrame) (tail : Bytes)
    (hr : Ready c) (hidle : LoopInv c none []) (hmap : ws.map frameOfWire = fs)
    (hval : ∀ w ∈ ws, validate (frameOfWire w) c.skipUtf8 = none)
    (hd : DecodesTo (pending c) ws tail) :
    (c.recvDataFrame false).2.sock.wire = c.sock.wire ++ pongsWire c.keys fs := by
  obtain ⟨c', e, _, _, _, w, _⟩ := recvDataFrame_message hm hr hidle hmap hval hd
  rw [e]
  exact w

end WS.Props.C07
