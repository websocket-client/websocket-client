/-
  WS.Props.C14 — property theorems for C14 (run_forever terminates; on_close once, last, with the close
  reason; resources gone; return value; re-run).
  The invariants (`WS.Lemmas.AppHoare`) hold for ALL worlds (dial outcomes, server event histories, timings),
  ALL callback plans (each callback may return, raise, call close() or raise KeyboardInterrupt at each
  invocation), ALL schedules of the ping thread, keepalive and reconnect on or off, plain and TLS-style.
  Not in the model: close() from a second thread (the harness runs it on the real code only; F13).
-/
import WS.Lemmas.AppHoare
import WS.Lemmas.AppRun
namespace WS.Props.C14
open WS WS.Model.App WS.Lemmas.App

/-- generated facts: teardown is guarded by `has_done_teardown`, stops the ping thread, calls on_close
    last; `run_forever` resets `has_errored` (F3 repaired) and has `finally: teardown()`; `read()` routes a
    close frame to `teardown(frame)` (F2 repaired). -/
theorem source_shape :
    Gen.appTeardownGuard = true ∧ Gen.appTeardownStopsPing = true ∧ Gen.appOnCloseLast = true ∧
    Gen.appResetsHasErrored = true ∧ Gen.appFinallyTeardown = true ∧ Gen.appCloseFrameToTeardown = true ∧
    Gen.appDisconnectSetsErrored = true ∧ Gen.appDisconnectStopsPing = true := by decide

/-- **C14_once_last** — however the run ends (every world, every callback plan in which the on_close
    handler itself does not fail, every schedule, any settings): if run_forever returns, on_close has been
    called exactly once during the run and no callback of any kind comes after it. -/
theorem C14_once_last (c : Cfg) (hco : CloseOk c) (hoc : c.has .onClose = true) (s0 : St) (b : Bool)
    (h : (runForeverO c s0).2 = .returned b) :
    ∃ δ1 a, cbs (runForever c s0) = cbs s0 ++ δ1 ++ [(.onClose, a)] ∧ closesIn δ1 = 0 := by
  obtain ⟨-, δ1, a, h_cbs, h_no_close, -⟩ := returned_spec c hco s0 b h
  rw [onCloseEv, if_pos hoc] at h_cbs
  exact ⟨δ1, a, h_cbs, h_no_close⟩

/-- **C14_return_value** — with an on_error handler that does not itself fail: the value run_forever
    returns is True exactly when an error of the run (anything other than a user callback's own exception)
    was reported to on_error during *this* run; in particular it is False for a run in which nothing was
    reported (ended by the server's close frame or by the application's close()). -/
theorem C14_return_value (c : Cfg) (hco : CloseOk c) (heo : ErrOk c) (s0 : St) (b : Bool)
    (h : (runForeverO c s0).2 = .returned b) :
    ∃ δ, cbs (runForever c s0) = cbs s0 ++ δ ∧ b = errsIn δ := by
  obtain ⟨-, δ1, a, h_cbs, -, h_ret⟩ := returned_spec c hco s0 b h
  exact ⟨δ1 ++ onCloseEv c a, by rw [h_cbs, List.append_assoc],
    by rw [h_ret heo, errsIn_append, errsIn_onCloseEv, Bool.or_false]⟩

/-- **C14_clean** — when run_forever returns, the loop is stopped, no socket is referenced any more, the
    ping thread is gone and the keepalive clocks are reset. -/
theorem C14_clean (c : Cfg) (hco : CloseOk c) (s0 : St) (b : Bool) (h : (runForeverO c s0).2 = .returned b) :
    (runForever c s0).sock = none ∧ (runForever c s0).ping = none ∧ (runForever c s0).keepRunning = false ∧
    (runForever c s0).lastPing = 0 ∧ (runForever c s0).lastPong = 0 :=
  let ⟨q, _⟩ := returned_spec c hco s0 b h
  ⟨q.sk, q.pg, q.kr, q.lp, q.lq⟩

/-- the fields of the app object that `run_forever` and its helpers read -/
def control (s : St) : Bool × Option WSock × Bool × Bool × Option PingTh × Nat × Nat :=
  (s.keepRunning, s.sock, s.hasErrored, s.hasDoneTeardown, s.ping, s.lastPing, s.lastPong)

/-- **C14_rerun** — after a run that returned, the same object is accepted by run_forever again
    (`sock` is None) and, after the prologue of the next call, every field the run reads is what it is on a
    freshly constructed object: a second run behaves like a first. -/
theorem C14_rerun (c : Cfg) (hco : CloseOk c) (s0 : St) (b : Bool) (h : (runForeverO c s0).2 = .returned b) :
    (runForever c s0).sock.isSome = false ∧
    control (prologue (runForever c s0)) = control (prologue ({} : St)) := by
  obtain ⟨h1, h2, _, h4, h5⟩ := C14_clean c hco s0 b h
  refine ⟨by simp [h1], ?_⟩
  simp [control, prologue, h1, h2, h4, h5]

/-- **C14_rerun_settings** — the keepalive settings are arguments of each `run_forever` call (`runManyK`): whatever settings
    a run had and whatever it left unanswered, after it returned the object is — in every field a run reads — a fresh one for
    the next call, whose own settings then apply. (An instance of `C14_rerun`: its conclusion does not mention the settings.) -/
theorem C14_rerun_settings (c : Cfg) (hco : CloseOk c) (iv : Int) (to : Option Int) (s0 : St) (b : Bool)
    (h : (runForeverO { c with iv := iv, to := to } s0).2 = .returned b) :
    (runForever { c with iv := iv, to := to } s0).sock.isSome = false ∧
    control (prologue (runForever { c with iv := iv, to := to } s0)) = control (prologue ({} : St)) :=
  C14_rerun { c with iv := iv, to := to } hco s0 b h

theorem runManyK_cons (c : Cfg) (iv : Int) (to : Option Int) (w : List Dial) (ws : List ((Int × Option Int) × List Dial)) (s : St) :
    runManyK c (((iv, to), w) :: ws) s = runManyK c ws (runForever { c with iv := iv, to := to } { s with dials := w }) := rfl

/-- **C14_terminates** (one connection) — for every legal traffic history followed by a terminating event
    (close frame with or without body, end of stream, reset, protocol or payload error), callbacks that
    return or raise, any subset of callbacks: run_forever returns -- True after an error, False after the
    server's close frame.  The fuel and horizon hypotheses only say that the model is not cut before the
    script's end; the progress argument is the measure `need0` on the script (each loop iteration either
    consumes an event or lets one select timeout pass). -/
theorem C14_terminates (c : Cfg) (hq : Quiet c) (hacc : argsAccepted c.iv c.to = true) (hiv : c.iv = 0)
    (hrc : c.reconnect = 0) (s0 : St) (legal : List TEv) (te : TEv)
    (hs : s0.sock = none) (hp : s0.ping = none) (hl : s0.lastPing = 0)
    (hd : s0.dials = [.established (legal ++ [te])])
    (hleg : ∀ e ∈ legal, isLegal e.ev = true) (hterm : endsBy te)
    (hfuel : need0 (selectTimeout c) (legal ++ [te]) + 1 ≤ c.fuel)
    (hz : endTime s0.now (legal ++ [te]) + secs Gen.closeTimeoutDefault ≤ c.horizon) :
    (runForeverO c s0).2 = .returned (match te.ev with | .close _ => false | _ => true) := by
  rw [(run_trace c hq hacc hiv hrc s0 legal te hs hp hl hd hleg (endsBy_isTerm hterm) hfuel (by omega) (fun _ => hz)).1]
  rcases hterm with h | h | h | h | ⟨b, h⟩ <;> rw [h] <;> rfl

/-- **C14_close_args** (one connection) — a run ended by the server's close frame calls
    on_close(code, reason) with `code = be16 body[0:2]`, `reason = body[2:]` when the body has at least two
    bytes and on_close(None, None) otherwise; no on_error is called; the value returned is False. -/
theorem C14_close_args (c : Cfg) (hq : Quiet c) (hacc : argsAccepted c.iv c.to = true) (hiv : c.iv = 0)
    (hrc : c.reconnect = 0) (s0 : St) (legal : List TEv) (te : TEv) (body : Bytes)
    (hs : s0.sock = none) (hp : s0.ping = none) (hl : s0.lastPing = 0)
    (hd : s0.dials = [.established (legal ++ [te])])
    (hleg : ∀ e ∈ legal, isLegal e.ev = true) (hk : te.ev = .close body) (hoc : c.has .onClose = true)
    (hfuel : need0 (selectTimeout c) (legal ++ [te]) + 1 ≤ c.fuel)
    (hz : endTime s0.now (legal ++ [te]) ≤ c.horizon) :
    ∃ pre t, (runForever c s0).trace = pre ++
        [(t, .wrote Gen.opcodeClose (beN 2 Gen.statusNormal)), (t, .sockDropped s0.nextIdx),
         (t, .cb .onClose (Spec.AppTrace.closeArgsOf body)), (t, .returned false)] ∧
      t = endTime s0.now (legal ++ [te]) := by
  obtain ⟨-, _, h, -⟩ := run_trace c hq hacc hiv hrc s0 legal te hs hp hl hd hleg (hk ▸ rfl) hfuel hz (by simp [hk])
  simp only [hk, endTrace, cbTrace, hoc, hq.2.2, closeArgs] at h
  exact ⟨_, _, h, rfl⟩

/-- other endings: on_close(None, None) (here: end of stream; the error is reported first) -/
theorem C14_close_args_eof (c : Cfg) (hq : Quiet c) (hacc : argsAccepted c.iv c.to = true) (hiv : c.iv = 0)
    (hrc : c.reconnect = 0) (s0 : St) (legal : List TEv) (te : TEv)
    (hs : s0.sock = none) (hp : s0.ping = none) (hl : s0.lastPing = 0)
    (hd : s0.dials = [.established (legal ++ [te])])
    (hleg : ∀ e ∈ legal, isLegal e.ev = true) (hk : te.ev = .eof) (hoc : c.has .onClose = true)
    (hoe : c.has .onError = true)
    (hfuel : need0 (selectTimeout c) (legal ++ [te]) + 1 ≤ c.fuel)
    (hz : endTime s0.now (legal ++ [te]) ≤ c.horizon) :
    ∃ pre t, (runForever c s0).trace = pre ++
        [(t, .sockClosed s0.nextIdx), (t, .cb .onError [.exn .closed]), (t, .cb .onClose [.none, .none]),
         (t, .returned true)] := by
  obtain ⟨-, _, h, -⟩ := run_trace c hq hacc hiv hrc s0 legal te hs hp hl hd hleg (hk ▸ rfl) hfuel hz (by simp [hk])
  simp only [hk, endTrace, lossEnd, cbTrace, hoc, hoe, hq.2.1, hq.2.2] at h
  exact ⟨_, _, h⟩

/-- non-vacuity and the defects' fixed points, on concrete worlds (evaluated by the kernel):
    server close frame 1001 "bye" → on_close(1001, "bye"), no on_error, returns False (F2);
    run 1 ends by a refused dial (True), run 2 on the same object by the application's close() → False (F3). -/
example :
    let c : Cfg := { has := fun _ => true, plan := fun _ => [], iv := 0, to := none, payload := [],
                     reconnect := 0, ssl := false, horizon := 100000, fuel := 50 }
    (runForeverO c { dials := [.established [⟨50, false, .close [0x03, 0xE9, 0x62, 0x79, 0x65]⟩]] }).2 = .returned false ∧
    (cbs (runForever c { dials := [.established [⟨50, false, .close [0x03, 0xE9, 0x62, 0x79, 0x65]⟩]] })) =
      [(.onOpen, []), (.onClose, [.int 1001, .str [0x62, 0x79, 0x65]])] := by
  decide +kernel

example :
    let c : Cfg := { has := fun _ => true, plan := fun cb => if cb = .onMessage then [.close] else [], iv := 0,
                     to := none, payload := [], reconnect := 0, ssl := false, horizon := 100000, fuel := 50 }
    let s1 := runForever c { dials := [.refused] }
    (runForeverO c { dials := [.refused] }).2 = .returned true ∧
    (runForeverO c { s1 with dials := [.established [⟨10, false, .message 1 [0x61] false⟩, ⟨10, false, .eof⟩]] }).2 = .returned false := by
  decide +kernel

/-- non-vacuity of the general theorems: a plan in which on_message calls close(), on_ping raises
    KeyboardInterrupt and on_data raises satisfies `CloseOk` and `ErrOk`; on a concrete world the run
    returns, so `C14_once_last` / `C14_return_value` / `C14_clean` / `C14_rerun` apply to it. -/
example :
    let c : Cfg := { has := fun _ => true,
                     plan := fun cb => if cb = .onMessage then [.ok, .close] else if cb = .onPing then [.ki]
                                       else if cb = .onData then [.raise] else [],
                     iv := 300, to := some 200, payload := [1], reconnect := 0, ssl := true, horizon := 100000, fuel := 60 }
    CloseOk c ∧ ErrOk c ∧
    (runForeverO c { dials := [.established [⟨100, false, .message 1 [0x61] false⟩, ⟨50, false, .message 2 [7] true⟩,
        ⟨700, false, .ping []⟩]], sched := [true] }).2 = .returned false := by
  refine ⟨fun k => Or.inl ?_, ⟨rfl, fun k => Or.inl ?_⟩, by decide +kernel⟩ <;> simp [Cfg.act]

/-- **C14_closing_is_not_an_error** — once the application has closed the connection (`keep_running` is False) any
    exception the loop trips over on its way out — the AttributeError of `self.sock.sock` after close() in on_open, the
    closed transport under a receive, a reset while the closing handshake is awaited — goes to teardown: nothing is reported
    to on_error, `has_errored` is not touched, and (first teardown of the run, on_close not failing) on_close is called
    last with the resources released. KeyboardInterrupt still propagates. For every state, exception and configuration. -/
theorem C14_closing_is_not_an_error (c : Cfg) (s : St) (e : AExn) (rc : Bool)
    (hk : s.keepRunning = false) (he : e ≠ .ki) :
    handleDisconnect c s e rc = teardown c s none :=
  handleDisconnect_closing c s e rc hk he

/-- F13's scenario after the repair, executed: close() inside on_open — no error report, on_close(None, None), False. -/
example :
    let c : Cfg := { has := fun _ => true, plan := fun cb => if cb = .onOpen then [.close] else [], iv := 0,
                     to := none, payload := [], reconnect := 0, ssl := false, horizon := 100000, fuel := 50 }
    let w : St := { dials := [.established [⟨100, false, .message 1 [0x68, 0x69] false⟩]] }
    (runForeverO c w).2 = .returned false ∧
    cbs (runForever c w) = [(.onOpen, []), (.onClose, [.none, .none])] := by
  decide +kernel

/-- generated fact: `WebSocketApp.close()` clears `keep_running` FIRST, before the closing handshake (whose wait for the
    server's reply lets the ping thread and other threads run) — as `Model.App.appClose` does. -/
theorem close_clears_first_in_source : Gen.appCloseClearsFirst = true := by decide

end WS.Props.C14
