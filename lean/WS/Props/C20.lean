/-
  WS.Props.C20 — property theorems for C20 (cookies replayed only inside their domain).
-/
import WS.Lemmas.Cookie
namespace WS.Props.C20
open WS WS.Py WS.Lemmas.Cookie
open WS.Model.Cookie
open WS.Spec.Cookie (Response Store record storeOf covers covering Admissible NameSorted)

/-- generated facts (T): `add` lower-cases the domain before looking it up; `get` sorts the
    (name, value) pairs (each false of a tree without the corresponding repair). -/
theorem code_shape : Gen.cookieLookupLowered = true ∧ Gen.cookieSortsPairs = true := cookie_shape

theorem jar_refines_store (hist : List Response) : Rel (jarOf (parsed hist)) (storeOf hist) := by
  unfold jarOf parsed storeOf
  rw [List.foldl_map]
  exact List.foldl_rel rel_nil fun r _ _ _ h => rel_step h r

/-- **C20_refines** — for every history of responses (any length; any names, values, domains,
    upper or lower case, with or without leading dot, or no domain) and every target host, the
    cookies `get` returns are an admissible answer of the Spec: a permutation of exactly the
    stored cookies whose domain covers the host (latest value per (domain, name)), in
    non-decreasing name order. -/
theorem C20_refines (hist : List Response) (host : Str) (hne : host ≠ []) :
    Admissible hist host (getPairs (jarOf (parsed hist)) host) :=
  getPairs_refines (jar_refines_store hist) hne

/-- the header line: the model renders exactly those pairs, then the caller's cookie
    (`Spec.header` of the admissible pairs). -/
theorem C20_header (hist : List Response) (host client : Str) :
    cookieHeader (jarOf (parsed hist)) host client =
      Spec.Cookie.header (getPairs (jarOf (parsed hist)) host) client :=
  cookieHeader_eq _ host client

/-- **C20_confined** — a cookie appears in a request to `host` only if it is stored for a
    domain that covers `host` (that domain itself or a subdomain of it, case-insensitively,
    on a label boundary) — never for any other host. -/
theorem C20_confined (hist : List Response) (host n v : Str) (hne : host ≠ [])
    (h : (n, v) ∈ getPairs (jarOf (parsed hist)) host) :
    ∃ d, ((d, n), v) ∈ storeOf hist ∧ covers d host = true := by
  obtain ⟨⟨⟨d, _⟩, _⟩, hmem, ⟨⟩⟩ := List.mem_map.mp ((C20_refines hist host hne).1.mem_iff.mp h)
  exact ⟨d, List.mem_filter.mp hmem⟩

/-- **C20_no_domain_dropped** — a response that names no Domain (or an empty one) changes
    nothing: neither the jar nor any later Cookie header. -/
theorem C20_no_domain_dropped (jar : Jar) (cookies : List (Str × Str)) (dom : Option Str)
    (h : (dom.getD []).isEmpty = true) : add jar (morselsOf cookies dom) = jar := by
  unfold add
  generalize cookieOf (morselsOf cookies dom) = all
  unfold morselsOf
  induction cookies with
  | nil => rfl
  | cons e r ih => simp only [List.map_cons, List.foldl_cons, addStep, h, if_true, ih]

/-- non-vacuity: the two F10 inputs, after the repairs; a look-alike host; no Domain. -/
example :
    getPairs (jarOf [([("a".toList, "1".toList)], some "example.com".toList),
                ([("b".toList, "2".toList)], some "EXAMPLE.COM".toList)]) "example.com".toList
      = [("a".toList, "1".toList), ("b".toList, "2".toList)] := by
  -- literals as character lists first: see `lit`
  repeat rw [String.toList_ofList]
  exact getPairs_of_sorted _ _ _ (by decide +kernel) (by decide +kernel) (by decide +kernel)

example :
    getPairs (jarOf [([("a".toList, "1".toList), ("a1".toList, "2".toList)], some "x.co".toList)])
      "sub.X.co".toList = [("a".toList, "1".toList), ("a1".toList, "2".toList)] :=
  getPairs_of_sorted _ _ _ (by decide +kernel) (by decide +kernel) (by decide +kernel)

example :
    getPairs (jarOf [([("a".toList, "1".toList)], some "x.co".toList)]) "badx.co".toList = [] ∧
    getPairs (jarOf [([("a".toList, "1".toList)], none)]) "x.co".toList = [] := by
  -- nothing to sort: on `[]` the kernel gets through `mergeSort`
  decide +kernel

end WS.Props.C20
