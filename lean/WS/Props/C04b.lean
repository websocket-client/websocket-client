/-
  WS.Props.C04b — C04, sequences of messages.
-/
import WS.Props.C04
namespace WS.Props.C04b
open WS WS.Model WS.Spec WS.Lemmas.RecvStrict WS.Lemmas.Parser WS.Lemmas.Stream WS.Lemmas.ShortWrites WS.Lemmas.Loop

/-- call `recv_data_frame()` `k` times. -/
def recvMsgs : Nat → Conn → List (Except Exn (Nat × Frame)) × Conn
  | 0, c => ([], c)
  | k + 1, c =>
    let (r, c1) := c.recvDataFrame false
    let (rs, c2) := recvMsgs k c1
    (r :: rs, c2)

/-- **C04_messages** — consecutive messages are delivered in the order they were sent: for ANY sequence of
    messages (each with any fragmentation and interleaved pings/pongs), over any chunking, `k` successive
    `recv_data_frame()` calls return the `k` messages in order, each once, each reassembled. Induction on the
    sequence; `recvDataFrame_message` is the step (it restores the idle state and consumes exactly one message). -/
theorem C04_messages (msgs : List (List Frame)) : ∀ (c : Conn) (ws : List WireFrame) (tail : Bytes),
    (∀ fs ∈ msgs, MsgFrames none fs) → Ready c → LoopInv c none [] → ws.map frameOfWire = msgs.flatten →
    (∀ w ∈ ws, validate (frameOfWire w) c.skipUtf8 = none) → DecodesTo (pending c) ws tail →
    ∃ c', recvMsgs msgs.length c =
            (msgs.map (fun fs => deliver c.skipUtf8 (firstDataOp fs) (lastFrame fs) (msgPayload fs)), c') ∧
      Ready c' ∧ pending c' = tail ∧ LoopInv c' none [] := by
  induction msgs with
  | nil =>
    intro c ws tail _ hr hi hmap _ hd
    obtain rfl := List.map_eq_nil_iff.1 hmap
    exact ⟨c, rfl, hr, decodesTo_nil hd, hi⟩
  | cons fs rest ih =>
    intro c ws tail hm hr hi hmap hval hd
    obtain ⟨ws1, ws2, rfl, h1, h2⟩ := List.map_eq_append_iff.mp hmap
    obtain ⟨mid, d1, d2⟩ := decodesTo_append hd
    obtain ⟨hv1, hv2⟩ := List.forall_mem_append.1 hval
    obtain ⟨c1, e1, r1, p1, i1, _, hskip⟩ := recvDataFrame_message (hm fs List.mem_cons_self) hr hi h1 hv1 d1
    obtain ⟨c2, e2, r2, p2, i2⟩ := ih c1 ws2 tail (fun x hx => hm x (List.mem_cons_of_mem _ hx)) r1 i1 h2
      (hskip ▸ hv2) (p1 ▸ d2)
    refine ⟨c2, ?_, r2, p2, i2⟩
    simp only [recvMsgs, List.length_cons, e1, e2, List.map_cons, hskip, msgOp, Option.getD_none, List.nil_append]

end WS.Props.C04b
