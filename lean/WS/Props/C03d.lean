/-
  WS.Props.C03d — C03 at the message level: a receive timeout BETWEEN the frames of a message loses nothing.
-/
import WS.Lemmas.Prefix
import WS.Lemmas.CloseTime
namespace WS.Props.C03d
open WS WS.Model WS.Spec WS.Lemmas.RecvStrict WS.Lemmas.Frame WS.Lemmas.Parser WS.Lemmas.Stream WS.Lemmas.ShortWrites WS.Lemmas.Loop
open WS.Lemmas.Fragments WS.Lemmas.CloseTime WS.Lemmas.Prefix

/-- the bytes `bs` arrive on a transport that had nothing left. -/
def arrive (c : Conn) (bs : Bytes) : Conn := { c with sock := { c.sock with inp := [.chunk bs] } }

/-- **C03_message_resume** — a receive timeout between the frames of a message (after any number of non-final fragments,
    answered pings and pongs: `pre`) leaves the connection usable and loses nothing: the interrupted
    `recv_data_frame()` raises TIMEOUT having answered the pings it read; when the rest of the message (`suf`) has
    arrived, the RETRIED call returns exactly what one uninterrupted call returns for the whole message (first opcode,
    in-order concatenation of all payloads — or the payload error), the two calls together have written exactly one pong
    per ping in order, and the reassembly state is idle again. Any fragmentation, any chunking of either part. -/
theorem C03_message_resume (pre suf : List Frame) (st st' : Option Nat) (hp : Pre st pre st') (hs : MsgFrames st' suf)
    (c : Conn) (acc : Bytes) (wsp wss : List WireFrame) (bs tail : Bytes)
    (hr : Ready c) (hinv : LoopInv c st acc) (htail : c.sock.tail = .timeout)
    (hmp : wsp.map frameOfWire = pre) (hms : wss.map frameOfWire = suf)
    (hvp : ∀ w ∈ wsp, validate (frameOfWire w) c.skipUtf8 = none) (hvs : ∀ w ∈ wss, validate (frameOfWire w) c.skipUtf8 = none)
    (hdp : DecodesTo (pending c) wsp []) (hds : DecodesTo bs wss tail) (hbs : bs ≠ []) :
    ∃ c1 c2,
      c.recvDataFrame false = (.error .timeout, c1) ∧
      (arrive c1 bs).recvDataFrame false =
        (deliver c.skipUtf8 (msgOp st (pre ++ suf)) (lastFrame (pre ++ suf)) (acc ++ msgPayload (pre ++ suf)), c2) ∧
      c2.sock.wire = c.sock.wire ++ pongsWire c.keys (pre ++ suf) ∧ pending c2 = tail ∧ LoopInv c2 none [] := by
  -- the interrupted call: the prefix is absorbed (reaching `c0`), then the next read times out
  obtain ⟨extra, hextra⟩ := fuel_split c hdp
  obtain ⟨c0, e0, r0, d0, inv0, sk0, wire0, keys0, tl0⟩ := more_prefix pre st st' hp c acc wsp [] [] (extra + 1) hr hinv hmp hvp
    (by rwa [List.append_nil])
  obtain ⟨hbuf0, hbytes0⟩ := List.append_eq_nil_iff.mp (decodesTo_nil d0)
  have hsil0 : Silent c0 := ⟨r0.live.1, r0.live.2, hbuf0, WS.Lemmas.Total.chunks_bytes_nil r0.chunks hbytes0,
    tl0.trans htail, r0.cleared.1⟩
  let c1 : Conn := { c0 with sock := { c0.sock with calls := c0.sock.calls + 1, recvSizes := 2 :: c0.sock.recvSizes,
                                                    clock := c0.sock.clock + c0.sock.timeoutMs.getD 0 } }
  have h1 : c.recvDataFrame false = (.error .timeout, c1) := by
    rw [Conn.recvDataFrame, hextra, ← List.length_map (f := frameOfWire), hmp, e0,
      WS.Lemmas.Walk.loop_error (recvFrame_silent c0 hsil0)]
  -- the retried call: `c1` differs from `c0` in the socket's counters and clock only
  obtain ⟨c2, e2, -, p2, inv2, wire2, -⟩ := recvDataFrame_message (c := arrive c1 bs) hs
    ⟨r0.live, fun _ he => ⟨bs, List.mem_singleton.1 he, hbs⟩, r0.cleared, r0.writable⟩ inv0 hms (sk0 ▸ hvs)
    (by simpa [arrive, pending, c1, hbuf0, bytesOf] using hds)
  refine ⟨c1, c2, h1, ?_, ?_, p2, inv2⟩
  · rw [e2, show (arrive c1 bs).skipUtf8 = c.skipUtf8 from sk0, msgOp_pre hp suf, lastFrame_append pre hs.ne_nil,
      msgPayload_append, List.append_assoc]
  · rw [wire2, show (arrive c1 bs).sock.wire = c0.sock.wire from rfl, show (arrive c1 bs).keys = c0.keys from rfl,
      wire0, keys0, pongsWire_append, List.append_assoc]

/-- non-vacuity, executed: text fragment "ab" (FIN=0) is there, the receive times out, then the final continuation "c"
    arrives; the retried call delivers (text, "abc"). -/
example :
    let c : Conn := { sock := { inp := [.chunk [0x01, 0x02, 0x61, 0x62]], tail := .timeout } }
    (match (c.recvDataFrame false).1 with | .error .timeout => true | _ => false) = true ∧
    (match ((arrive (c.recvDataFrame false).2 [0x80, 0x01, 0x63]).recvDataFrame false).1 with
      | .ok (op, f) => op == 1 && f.data == [0x61, 0x62, 0x63] | _ => false) = true := by decide +kernel

end WS.Props.C03d
