/-
  WS.Props.C16b — C16 "pings carrying the configured payload": every ping frame the application writes, on any connection of
  any run, carries `ping_payload` — and nothing else in the application writes a ping.
-/
import WS.Lemmas.AppPings
import WS.Props.C16
namespace WS.Props.C16b
open WS WS.Model.App WS.Lemmas.App

/-- **C16_ping_payload** — for every configuration (callbacks set or not, callback plans that raise, close or interrupt,
    keepalive and reconnect settings, TLS-style or plain), every list of runs on the same object, each with its own keepalive
    arguments and its own world of dial outcomes and server events, every schedule of the ping thread against the reading
    loop: every PING frame in the trace carries exactly the configured payload. (Pongs answer with the PEER's payload and
    close frames carry the status; only the ping thread writes pings.) -/
theorem C16_ping_payload (c : Cfg) (runs : List ((Int × Option Int) × List Dial)) (s0 : St) (h0 : s0.trace = []) :
    ∀ te ∈ (runManyK c runs s0).trace, ∀ p, te.2 = .wrote Gen.opcodePing p → p = c.payload := by
  have h : PP c s0 := by
    intro te hte
    rw [h0] at hte
    cases hte
  exact pp_runManyK c runs s0 h

/-- the same for one run and for several runs with the same settings -/
theorem C16_ping_payload_run (c : Cfg) (s0 : St) (h0 : s0.trace = []) :
    ∀ te ∈ (runForever c s0).trace, ∀ p, te.2 = .wrote Gen.opcodePing p → p = c.payload :=
  C16_ping_payload c [((c.iv, c.to), s0.dials)] s0 h0

/-- non-vacuity, executed: interval 2 s, payload "hi", a connection that stays silent for about 7 s and then ends (first ping
    at 2·interval): pings are in the trace (two of them), and each carries "hi". -/
example :
    let c : Cfg := { has := fun _ => true, plan := fun _ => [], iv := 2048, to := none, payload := [0x68, 0x69],
                     reconnect := 0, ssl := false, horizon := 20000, fuel := 50 }
    let s := runForever c { dials := [.established [{ dt := 7000, burst := false, ev := .eof }]] }
    (s.trace.filter fun te => match te.2 with | .wrote 9 _ => true | _ => false).length = 2 ∧
    (s.trace.all fun te => match te.2 with | .wrote 9 p => p == [0x68, 0x69] | _ => true) = true := by decide +kernel

end WS.Props.C16b
