/-
  WS.Props.C06 — text is delivered only if the whole payload is well-formed UTF-8: the validator built on the generated
  table is Table 3-7 of the Unicode Standard (the argument about the automaton is in `WS.Lemmas.Utf8`).
-/
import WS.Lemmas.Utf8
namespace WS.Props.C06
open WS WS.Spec WS.Model WS.Lemmas.Utf8

/-- the code's `_validate_utf8` ends with `return state == _UTF8_ACCEPT`
    (generated fact; false of a tree that ends with `return True`). -/
theorem final_state_checked : Gen.utf8FinalCheck = true := by decide

/-- **C06_validate** — for *every* byte string, the validator built on the generated table
    answers exactly Table 3-7 of the Unicode Standard: no overlong forms, no surrogates,
    nothing above U+10FFFF, no sequence cut short at the end. -/
theorem C06_validate (bs : Bytes) : validateUtf8 bs = wellFormed bs := by
  have h := loop_accepts_iff bs (0, 0, 0) Gen.utf8Accept (by decide)
  rw [wfFrom_zero] at h
  rw [Bool.eq_iff_iff, ← h, validateUtf8, final_state_checked]
  cases utf8Loop Gen.utf8Accept bs <;> simp

/-- non-vacuity / sanity: concrete members of each class. -/
example : validateUtf8 [0xC3, 0xA9] = true ∧ validateUtf8 [0xC3] = false ∧
    validateUtf8 [0xED, 0xA0, 0x80] = false ∧ validateUtf8 [0xC0, 0x80] = false ∧
    validateUtf8 [0xF4, 0x90, 0x80, 0x80] = false ∧ validateUtf8 [0xF0, 0x9F, 0x98, 0x80] = true := by
  decide +kernel

/-- generated fact: iteration is receiving — `__iter__` is exactly `while True: yield self.recv()`, `__next__` is
    `return self.recv()`, `next` is `return self.__next__()`; the model's one receive operation stands for all of them (the
    correspondence runs every other session through these spellings). -/
theorem iteration_is_recv : Gen.iterationIsRecv = true := by decide

end WS.Props.C06
