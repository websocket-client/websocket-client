/-
  WS.Props.C01c — C01, str payloads: "text as its UTF-8 bytes".
-/
import WS.Props.C01b
import WS.Lemmas.Scalars
namespace WS.Props.C01c
open WS WS.Spec WS.Model WS.Lemmas.Frame WS.Lemmas.ShortWrites WS.Lemmas.Scalars

theorem encodeStr_ok (cps : List Nat) (h : ∀ c ∈ cps, IsScalar c) : encodeStr cps = .ok (cps.flatMap encodeScalar) :=
  if_pos (List.all_eq_true.mpr fun c hc => decide_eq_true (h c hc))

/-- a str holding a lone surrogate (or a value that is no code point) is refused before anything is drawn or written. -/
theorem C01_text_unencodable (c : Conn) (cps : List Nat) (h : ∃ x ∈ cps, ¬ IsScalar x) :
    c.sendText cps = (.error (.internal "UnicodeEncodeError"), c) ∧
    c.pingText cps = (.error (.internal "UnicodeEncodeError"), c) ∧
    c.pongText cps = (.error (.internal "UnicodeEncodeError"), c) := by
  obtain ⟨x, hx, hn⟩ := h
  have : encodeStr cps = .error (.internal "UnicodeEncodeError") :=
    if_neg fun hall => hn (of_decide_eq_true (List.all_eq_true.mp hall x hx))
  simp [Conn.sendText, Conn.pingText, Conn.pongText, this]

/-- **C01_text** — `send(text)`, `ping(text)`, `pong(text)` with a str payload (any sequence of Unicode scalar values
    whose encoding is shorter than 2^63 bytes), on a writable connection, whatever the short-write pattern: ONE key is
    drawn; the bytes added to the wire are one frame that the RFC decoder reads as FIN=1, reserved bits clear, the
    opcode of the call (TEXT / PING / PONG), MASK set, the drawn key, the minimal length form, and a payload that is
    EXACTLY the UTF-8 encoding of the text (Unicode Table 3-6, scalar by scalar) — which is well-formed UTF-8
    (Table 3-7), so an independent decoder recovers the caller's text; `send` returns the number of bytes written. -/
theorem C01_text (c : Conn) (cps : List Nat) (k : Bytes) (ks : List Bytes)
    (hs : ∀ x ∈ cps, IsScalar x) (hw : Writable c) (hlen : (cps.flatMap encodeScalar).length < 2 ^ 63)
    (hkeys : c.keys = k :: ks) (hk : k.length = 4) :
    let p := cps.flatMap encodeScalar
    wellFormed p = true ∧
    (∀ (call : Conn → List Nat → Except Exn Nat × Conn) (op : Nat),
      (call = Conn.sendText ∧ op = 1) ∨ (call = Conn.pingText ∧ op = 9) ∨ (call = Conn.pongText ∧ op = 10) →
      ∃ w c', call c cps = (.ok w.length, c') ∧ c'.sock.wire = c.sock.wire ++ w ∧
        decode w = .frame { fin := 1, rsv1 := 0, rsv2 := 0, rsv3 := 0, opcode := op, masked := true, key := k,
                            lenForm := minimalForm p.length, payload := p } [] ∧
        c'.keyDraws = c.keyDraws + 1) := by
  intro p
  refine ⟨wellFormed_flatMap_encode cps hs, ?_⟩
  intro call op hcall
  have henc := encodeStr_ok cps hs
  -- each of the three calls is `send` of the encoded text with its opcode
  have hsend : call c cps = c.send p op ∧ op ∈ Gen.opcodes := by
    rcases hcall with ⟨rfl, rfl⟩ | ⟨rfl, rfl⟩ | ⟨rfl, rfl⟩
    all_goals
      simp only [Conn.sendText, Conn.pingText, Conn.pongText, Conn.ping, Conn.pong, henc]
      exact ⟨rfl, by decide⟩
  obtain ⟨w, c', h1, h2, h3, h4, _⟩ := WS.Props.C01b.C01_send c p op k ks hw hsend.2 hlen hkeys hk
  exact ⟨w, c', hsend.1 ▸ h1, h2, h3, h4⟩

/-- non-vacuity: "é€" = U+00E9 U+20AC encodes to C3 A9 E2 82 AC. -/
example : (match encodeStr [0xE9, 0x20AC] with | .ok p => p | .error _ => []) = [0xC3, 0xA9, 0xE2, 0x82, 0xAC] := by decide

end WS.Props.C01c
