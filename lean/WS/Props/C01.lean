/-
  WS.Props.C01 — every frame the client writes is one well-formed masked RFC 6455 frame.
-/
import WS.Lemmas.Frame
namespace WS.Props.C01
open WS WS.Spec WS.Model WS.Lemmas.Frame

theorem consts : Gen.length7 = 126 ∧ Gen.length16 = 65536 ∧ Gen.length63 = 2 ^ 63 ∧
    Gen.opcodes = [0, 1, 2, 8, 9, 10] := by decide

/-- **C01_wire** — for every payload (any length below 2^63), FIN ∈ {0,1}, every opcode of the
    code's table and every 4-byte key, `ABNF.format` on the frame `create_frame` builds succeeds,
    and the RFC decoder reads its output back as exactly: that FIN, reserved bits clear, that
    opcode, MASK set, that key, the *minimal* length form, the caller's payload, nothing left
    over; and the number of bytes is header + 4 + payload. -/
theorem C01_wire (fin op : Nat) (key p : Bytes) (hfin : fin ≤ 1) (hop : op ∈ Gen.opcodes)
    (hkey : key.length = 4) (hlen : p.length < 2 ^ 63) :
    ∃ w, format (createFrame p op fin) key = .ok w ∧
      decode w = .frame { fin := fin, rsv1 := 0, rsv2 := 0, rsv3 := 0, opcode := op, masked := true,
                          key := key, lenForm := minimalForm p.length, payload := p } [] ∧
      w.length = hdrLen p.length + 4 + p.length := by
  refine ⟨_, format_eq_encode (createFrame p op fin) key (Nat.lt_succ_of_le hfin) Nat.zero_lt_two Nat.zero_lt_two
    Nat.zero_lt_two hop Nat.one_lt_two hlen hkey, ?_, ?_⟩
  · have := decode_encode (some key) p [] (Nat.lt_succ_of_le hfin) Nat.zero_lt_two Nat.zero_lt_two Nat.zero_lt_two
      (opcode_lt_16 op hop) (fun k h => by cases h; exact hkey) (minimalForm_ok _ (by omega))
    rw [List.append_nil] at this
    exact this
  · rw [encode_length, minimalForm_ite]
    show _ + key.length + _ = _
    rw [hkey]
    rfl

end WS.Props.C01
